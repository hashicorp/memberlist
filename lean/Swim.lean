import Swim.Drv.C03
import Swim.Drv.C06
import Swim.Drv.C09
import Swim.Drv.C10
import Swim.Drv.C17
import Swim.Drv.C19
import Swim.Drv.Cluster
import Swim.Drv.Codec
import Swim.Drv.Ingest
import Swim.Drv.Merge
import Swim.Drv.Msgpack
import Swim.Drv.Scale
import Swim.Drv.Sim
import Swim.Gen.Facts
import Swim.Gen.FuncsAcks
import Swim.Gen.FuncsCodec
import Swim.Gen.FuncsKeyring
import Swim.Gen.FuncsQueue
import Swim.Gen.FuncsState
import Swim.Gen.FuncsSelect
import Swim.Gen.FuncsLists
import Swim.Lemmas.Digits
import Swim.Lemmas.List
import Swim.Lemmas.Merge
import Swim.Lemmas.Rules
import Swim.Model.Acks
import Swim.Model.Cluster
import Swim.Model.Codec
import Swim.Model.Handlers
import Swim.Model.Handoff
import Swim.Model.Ingest
import Swim.Model.Keyring
import Swim.Model.Lifecycle
import Swim.Model.Merge
import Swim.Model.Msgpack
import Swim.Model.Probe
import Swim.Model.Queue
import Swim.Model.Scale
import Swim.Model.Susp
import Swim.Model.Verify
import Swim.Props.C01
import Swim.Props.C02
import Swim.Props.C02Cluster
import Swim.Props.C03
import Swim.Props.C03Cluster
import Swim.Props.C04
import Swim.Props.C04Cluster
import Swim.Props.C05
import Swim.Props.C05Cluster
import Swim.Props.C05Converge
import Swim.Props.C05Recover
import Swim.Props.C06
import Swim.Props.C06Cluster
import Swim.Props.C06Facts
import Swim.Props.C06History
import Swim.Props.C07
import Swim.Props.C08
import Swim.Props.C08Cluster
import Swim.Props.C08Final
import Swim.Props.C09
import Swim.Props.C09Cluster
import Swim.Props.C10
import Swim.Props.C10Prefer
import Swim.Props.C11
import Swim.Props.C12
import Swim.Props.C12Wire
import Swim.Props.C13
import Swim.Props.C14
import Swim.Props.C15
import Swim.Props.C16
import Swim.Props.C17
import Swim.Props.C18
import Swim.Props.C18Parse
import Swim.Props.C19
import Swim.Props.C19Table
import Swim.Props.C20
import Swim.Props.Cluster
import Swim.Props.ClusterG
import Swim.Props.GenTie.Acks
import Swim.Props.GenTie.Codec
import Swim.Props.GenTie.Keyring
import Swim.Props.GenTie.Queue
import Swim.Props.GenTie.State
import Swim.Props.GenTie.Select
import Swim.Props.GenTie.Lists
import Swim.Props.C04Facts
import Swim.Model.Select
import Swim.Props.Select
import Swim.Drv.Select
import Swim.Props.Handoff
import Swim.Props.Msgpack
import Swim.Props.Projection
import Swim.Props.Scale
import Swim.Util.Parse
