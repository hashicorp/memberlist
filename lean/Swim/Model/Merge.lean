/-
Model of the per-member merge rules of state.go: aliveNode, suspectNode, deadNode,
mergeState, refute, the suspicion-timer callback, resetNodes (reaping), and the local
API entry points that feed them (setAlive/UpdateNode, Leave).

Abstractions (each tied by the step harness):
* addresses and metadata are opaque codes (`Nat`); the harness maps distinct byte strings
  (address bytes as compared by bytes.Equal, plus port) to distinct codes;
* time is logical: `changed = some t` is "changed by the operation with stamp t" (recent,
  younger than every configured threshold), `changed = none` is "long ago" (zero time, or
  aged past DeadNodeReclaimTime / GossipToTheDeadTime by the harness);
* random choices (insertion offset, shuffle) and float-derived timer parameters are inputs.
-/
namespace Swim.Merge

inductive St where
  | alive | suspect | dead | left
  deriving DecidableEq, Repr, Inhabited

def St.deadOrLeft : St → Bool
  | .dead => true | .left => true | _ => false

structure Rec where
  name : String
  inc : Nat
  st : St
  addr : Nat
  port : Nat
  md : Nat
  vsn : List Nat          -- pmin pmax pcur dmin dmax dcur as stored (always 6 values)
  changed : Option Nat
  deriving DecidableEq, Repr, Inhabited

structure Timer where
  node : String
  k : Nat
  n : Nat                    -- confirmations counted
  confirmers : List String   -- includes the original accuser
  changedAt : Nat            -- the change stamp the callback compares with
  deriving DecidableEq, Repr

structure Cfg where
  self : String
  reclaim : Bool             -- DeadNodeReclaimTime > 0
  hasAliveDelegate : Bool
  hasConflictDelegate : Bool
  awarenessMax : Nat
  suspicionK : Nat           -- SuspicionMult - 2
  deriving Repr

structure Node where
  cfg : Cfg
  recs : List Rec := []
  timers : List Timer := []        -- live timers (the nodeTimers map)
  selfInc : Nat := 0               -- m.incarnation
  hasLeft : Bool := false
  score : Nat := 0
  numNodes : Nat := 0
  deriving Repr

inductive Kind where
  | alive | suspect | dead
  deriving DecidableEq, Repr

/-- observable effects of one operation, in order -/
inductive Out where
  | join (name : String) (addr port md : Nat)
  | update (name : String) (md : Nat)
  | leave (name : String)
  | conflict (name : String) (addr port : Nat)
  | bcast (qname : String) (kind : Kind) (node : String) (inc : Nat) (frm : String) (notify : Bool)
  | newTimer (node : String) (k : Nat) (frm : String)
  deriving DecidableEq, Repr

structure AliveMsg where
  inc : Nat
  node : String
  addr : Nat
  port : Nat
  md : Nat
  vsn : List Nat
  deriving DecidableEq, Repr

/-- environment of one call: logical time stamp, allow-list verdict for the claimed address,
alive-delegate verdict, random insertion offset -/
structure Env where
  now : Nat
  ipAllowed : Bool
  delegateOk : Bool
  offset : Nat
  deriving Repr

def lookup (recs : List Rec) (name : String) : Option Rec := recs.find? (·.name == name)

def setRec (recs : List Rec) (r : Rec) : List Rec := recs.map fun x => if x.name == r.name then r else x

def delTimer (ts : List Timer) (name : String) : List Timer := ts.filter (·.node != name)

def u32 : Nat := 4294967296

/-- `refute`: next incarnation strictly above the accusation (uint32 arithmetic), health +1,
alive broadcast queued under the address string (modelled as `"@" ++ name`). -/
def refuteInc (cur acc : Nat) : Nat :=
  let i := (cur + 1) % u32
  if acc ≥ i then (i + (acc + u32 - i + 1) % u32) % u32 else i

def bumpScore (n : Node) (delta : Int) : Nat :=
  let s : Int := (n.score : Int) + delta
  if s < 0 then 0 else if s > (n.cfg.awarenessMax : Int) - 1 then ((n.cfg.awarenessMax : Int) - 1).toNat else s.toNat

def refute (n : Node) (me : Rec) (accused : Nat) : Node × List Out :=
  let inc := refuteInc n.selfInc accused
  let me' := { me with inc }
  ({ n with selfInc := inc, recs := setRec n.recs me', score := bumpScore n 1 },
   [.bcast ("@" ++ me.name) .alive me.name inc "" false])

def vsnBad (v : List Nat) : Bool :=
  v.length ≥ 3 && (v.getD 0 0 == 0 || v.getD 1 0 == 0 || v.getD 0 0 > v.getD 1 0)

/-- the record `aliveNode` inserts for a member it has never heard of: dead, incarnation 0 -/
def stub (a : AliveMsg) : Rec :=
  { name := a.node, inc := 0, st := .dead, addr := a.addr, port := a.port, md := a.md,
    vsn := if a.vsn.length > 5 then a.vsn.take 6 else [0, 0, 0, 0, 0, 0], changed := none }

def withStub (n : Node) (a : AliveMsg) : Node :=
  { n with recs := n.recs ++ [stub a], numNodes := n.numNodes + 1 }

/-- may a different address take this record over? left: at once; dead: once the reclaim time elapsed -/
def reclaimable (n : Node) (r : Rec) : Bool :=
  r.st == .left || (r.st == .dead && n.cfg.reclaim && r.changed == none)

/-- what `aliveNode` decides to do with a claim -/
inductive AliveDec where
  | ignore                        -- nothing happens
  | conflict                      -- different address, holder not reclaimable: conflict callback only
  | stubOnly                      -- unknown member announced with incarnation 0: dead stub inserted, nothing else
  | delTimerOnly (isNew : Bool)   -- local node, same incarnation/meta/versions: only the timer entry is dropped
  | refuteSelf (isNew : Bool)     -- local node accused: refute
  | accept (isNew : Bool)         -- record updated, re-gossiped, event
  deriving DecidableEq, Repr

/-- the staleness tests and the local-node branch, for a known (or freshly stubbed) record -/
def decideKnown (n : Node) (a : AliveMsg) (bootstrap : Bool) (state : Rec) (updatesNode isNew : Bool) : AliveDec :=
  let isLocal := a.node == n.cfg.self
  if a.inc ≤ state.inc && !isLocal && !updatesNode then (if isNew then .stubOnly else .ignore)
  else if a.inc < state.inc && isLocal then (if isNew then .stubOnly else .ignore)
  else if !bootstrap && isLocal then
    if a.inc == state.inc && a.md == state.md && a.vsn == state.vsn then .delTimerOnly isNew else .refuteSelf isNew
  else .accept isNew

def aliveDecide (n : Node) (a : AliveMsg) (bootstrap : Bool) (env : Env) : AliveDec :=
  if n.hasLeft && a.node == n.cfg.self then .ignore
  else if vsnBad a.vsn then .ignore
  else if n.cfg.hasAliveDelegate && (a.vsn.length < 6 || !env.delegateOk) then .ignore
  else
    match lookup n.recs a.node with
    | none => if !env.ipAllowed then .ignore else decideKnown n a bootstrap (stub a) false true
    | some state =>
      if state.addr != a.addr || state.port != a.port then
        if !env.ipAllowed then .ignore
        else if reclaimable n state then decideKnown n a bootstrap state true false
        else .conflict
      else decideKnown n a bootstrap state false false

/-- the updated record of an accepted alive claim -/
def acceptRec (state : Rec) (a : AliveMsg) (env : Env) : Rec :=
  { state with
    vsn := if a.vsn.length ≥ 6 then a.vsn.take 6 else state.vsn
    inc := a.inc
    md := a.md
    addr := a.addr
    port := a.port
    st := .alive
    changed := if state.st != .alive then some env.now else state.changed }

def aliveApply (n : Node) (a : AliveMsg) (notify : Bool) (env : Env) : AliveDec → Node × List Out
  | .ignore => (n, [])
  | .conflict => (n, if n.cfg.hasConflictDelegate then [.conflict a.node a.addr a.port] else [])
  | .stubOnly => (withStub n a, [])
  | .delTimerOnly isNew =>
    let base := if isNew then withStub n a else n
    ({ base with timers := delTimer base.timers a.node }, [])
  | .refuteSelf isNew =>
    let base := if isNew then withStub n a else n
    let state := (lookup base.recs a.node).getD (stub a)
    let base := { base with timers := delTimer base.timers a.node }
    let (n', outs) := refute base state a.inc
    (n', outs ++ (if state.st.deadOrLeft then [.join state.name state.addr state.port state.md] else []))
  | .accept isNew =>
    let base := if isNew then withStub n a else n
    let state := (lookup base.recs a.node).getD (stub a)
    ({ base with timers := delTimer base.timers a.node, recs := setRec base.recs (acceptRec state a env) },
     [.bcast a.node .alive a.node a.inc "" notify] ++
     (if state.st.deadOrLeft then [.join a.node a.addr a.port a.md]
      else if state.md != a.md then [.update a.node a.md] else []))

/-- `aliveNode` -/
def aliveNode (n : Node) (a : AliveMsg) (notify bootstrap : Bool) (env : Env) : Node × List Out :=
  aliveApply n a notify env (aliveDecide n a bootstrap env)

structure Claim where   -- suspect / dead message
  inc : Nat
  node : String
  frm : String
  deriving DecidableEq, Repr

/-- `suspicion.Confirm` (bookkeeping part; the timing part is `Swim.Model.Susp`) -/
def Timer.confirm (t : Timer) (frm : String) : Timer × Bool :=
  if t.n ≥ t.k then (t, false)
  else if t.confirmers.contains frm then (t, false)
  else ({ t with n := t.n + 1, confirmers := t.confirmers ++ [frm] }, true)

/-- `suspectNode`; `k` for a new timer is computed from the cluster-size estimate -/
def suspectNode (n : Node) (s : Claim) (env : Env) : Node × List Out :=
  match lookup n.recs s.node with
  | none => (n, [])
  | some state =>
    if s.inc < state.inc then (n, [])
    else
      match n.timers.find? (·.node == s.node) with
      | some t =>
        let (t', ok) := t.confirm s.frm
        if ok then ({ n with timers := n.timers.map fun x => if x.node == s.node then t' else x },
                    [.bcast s.node .suspect s.node s.inc s.frm false])
        else (n, [])
      | none =>
        if state.st != .alive then (n, [])
        else if state.name == n.cfg.self then refute n state s.inc
        else
          let st' := { state with inc := s.inc, st := .suspect, changed := some env.now }
          let k := if n.numNodes < n.cfg.suspicionK + 2 then 0 else n.cfg.suspicionK
          let t : Timer := { node := s.node, k, n := 0, confirmers := [s.frm], changedAt := env.now }
          ({ n with recs := setRec n.recs st', timers := n.timers ++ [t] },
           [.bcast s.node .suspect s.node s.inc s.frm false, .newTimer s.node k s.frm])

/-- `deadNode` -/
def deadNode (n : Node) (d : Claim) (env : Env) : Node × List Out :=
  match lookup n.recs d.node with
  | none => (n, [])
  | some state =>
    if d.inc < state.inc then (n, [])
    else
      let n := { n with timers := delTimer n.timers d.node }
      if state.st.deadOrLeft then (n, [])
      else if state.name == n.cfg.self && !n.hasLeft then refute n state d.inc
      else
        let st' := { state with inc := d.inc, st := if d.node == d.frm then .left else .dead, changed := some env.now }
        ({ n with recs := setRec n.recs st' },
         [.bcast d.node .dead d.node d.inc d.frm (state.name == n.cfg.self), .leave d.node])

/-- one entry of a push/pull state list -/
structure PushState where
  name : String
  addr : Nat
  port : Nat
  md : Nat
  inc : Nat
  st : St
  vsn : List Nat
  ipAllowed : Bool    -- environment verdicts for this entry
  delegateOk : Bool
  offset : Nat
  deriving DecidableEq, Repr

/-- `mergeState`: alive → aliveNode, left → deadNode(from = name), dead|suspect → suspectNode(from = self) -/
def mergeOne (n : Node) (r : PushState) (now : Nat) : Node × List Out :=
  let env : Env := { now, ipAllowed := r.ipAllowed, delegateOk := r.delegateOk, offset := r.offset }
  match r.st with
  | .alive => aliveNode n { inc := r.inc, node := r.name, addr := r.addr, port := r.port, md := r.md, vsn := r.vsn } false false env
  | .left => deadNode n { inc := r.inc, node := r.name, frm := r.name } env
  | .dead => suspectNode n { inc := r.inc, node := r.name, frm := n.cfg.self } env
  | .suspect => suspectNode n { inc := r.inc, node := r.name, frm := n.cfg.self } env

def mergeState (n : Node) (rs : List PushState) (now : Nat) : Node × List Out :=
  rs.foldl (fun (acc : Node × List Out) r => let (n', o) := mergeOne acc.1 r now; (n', acc.2 ++ o)) (n, [])

/-- the suspicion timer callback of the timer created with change stamp `changedAt` for `node` -/
def timerFire (n : Node) (node : String) (changedAt : Nat) (env : Env) : Node × List Out :=
  match lookup n.recs node with
  | none => (n, [])
  | some state =>
    if state.st == .suspect && state.changed == some changedAt then
      deadNode n { inc := state.inc, node := state.name, frm := n.cfg.self } env
    else (n, [])

/-- `resetNodes`: drop dead/left records that changed long ago (never our own). The shuffle that
follows is irrelevant here (records are compared as a set; the probe order is `Swim.Model.Probe`). -/
def reap (n : Node) : Node :=
  let keep := n.recs.filter fun r => !(r.st.deadOrLeft && r.changed == none) || r.name == n.cfg.self
  { n with recs := keep, numNodes := keep.length }

/-- `setAlive` / `UpdateNode`: bump the incarnation, then a bootstrap alive about ourselves -/
def updateNode (n : Node) (addr port md : Nat) (vsn : List Nat) (notify : Bool) (env : Env) : Node × List Out :=
  let inc := (n.selfInc + 1) % u32
  aliveNode { n with selfInc := inc } { inc, node := n.cfg.self, addr, port, md, vsn } notify true env

/-- `Leave` (state part): set the flag, then a self-signed dead at the record's incarnation -/
def leave (n : Node) (env : Env) : Node × List Out :=
  if n.hasLeft then (n, [])
  else
    let n := { n with hasLeft := true }
    match lookup n.recs n.cfg.self with
    | none => (n, [])
    | some state => deadNode n { inc := state.inc, node := state.name, frm := state.name } env

/-- aging: the harness moves the change time of a record into the far past -/
def ageRec (n : Node) (name : String) : Node :=
  { n with recs := n.recs.map fun r => if r.name == name then { r with changed := none } else r }

inductive Op where
  | alive (a : AliveMsg) (bootstrap : Bool) (env : Env)
  | suspect (c : Claim) (env : Env)
  | dead (c : Claim) (env : Env)
  | merge (rs : List PushState) (now : Nat)
  | fire (node : String) (changedAt : Nat) (env : Env)
  | reap
  | update (addr port md : Nat) (vsn : List Nat) (env : Env)
  | leave (env : Env)
  | age (name : String)
  deriving Repr

def step (n : Node) : Op → Node × List Out
  | .alive a b env => aliveNode n a false b env
  | .suspect c env => suspectNode n c env
  | .dead c env => deadNode n c env
  | .merge rs now => mergeState n rs now
  | .fire node ca env => timerFire n node ca env
  | .reap => (reap n, [])
  | .update a p m v env => updateNode n a p m v true env
  | .leave env => leave n env
  | .age name => (ageRec n name, [])

/-- `Members()`: names of the records that are neither dead nor left, in list order -/
def members (n : Node) : List String := (n.recs.filter (fun r => !r.st.deadOrLeft)).map (·.name)

end Swim.Merge
