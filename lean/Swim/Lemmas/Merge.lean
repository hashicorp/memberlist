import Swim.Model.Merge
import Swim.Lemmas.List
/-! The record list as a map keyed by name: `lookup` after a name-preserving `map` (`setRec`), after appending (the
stub of a member never heard of), after filtering (the reaper); unique names; the timer list without one member's
timer; the precedence key of a view of a member and its order. -/
namespace Swim.Merge

theorem lookup_name {recs : List Rec} {y : String} {r : Rec} (h : lookup recs y = some r) : r.name = y := by
  have := List.find?_some h
  simpa using this

theorem lookup_mem {recs : List Rec} {y : String} {r : Rec} (h : lookup recs y = some r) : r ∈ recs :=
  List.mem_of_find?_eq_some h

theorem lookup_isSome_iff (recs : List Rec) (y : String) : (lookup recs y).isSome ↔ y ∈ recs.map (·.name) := by
  simp only [lookup, List.find?_isSome, List.mem_map, beq_iff_eq]

theorem lookup_none_not_mem (recs : List Rec) (y : String) (h : lookup recs y = none) : y ∉ recs.map (·.name) := by
  rw [← lookup_isSome_iff, h]; simp

/-- names are unique in the record list (memberlist's `nodeMap` is keyed by name) -/
def Uniq (n : Node) : Prop := (n.recs.map (·.name)).Nodup

theorem lookup_of_mem {recs : List Rec} (hu : (recs.map (·.name)).Nodup) {r : Rec} (hr : r ∈ recs) :
    lookup recs r.name = some r := by
  cases h : lookup recs r.name with
  | none => exact absurd (List.mem_map_of_mem hr) (lookup_none_not_mem recs r.name h)
  | some x => rw [List.eq_of_nodup_map hu (lookup_mem h) hr (lookup_name h)]

theorem lookup_map (recs : List Rec) (f : Rec → Rec) (hf : ∀ r, (f r).name = r.name) (y : String) :
    lookup (recs.map f) y = (lookup recs y).map f :=
  List.find?_map_of_key_eq hf recs y

theorem names_map (recs : List Rec) (f : Rec → Rec) (hf : ∀ r, (f r).name = r.name) :
    (recs.map f).map (·.name) = recs.map (·.name) := by
  simp [Function.comp_def, hf]

theorem setRec_fun_name (r x : Rec) : (if x.name == r.name then r else x).name = x.name := by
  split
  · next h => exact (beq_iff_eq.mp h).symm
  · rfl

@[simp] theorem lookup_setRec (recs : List Rec) (r : Rec) (y : String) :
    lookup (setRec recs r) y = if y = r.name then (lookup recs y).map fun _ => r else lookup recs y := by
  rw [setRec, lookup_map _ _ (setRec_fun_name r)]
  cases h : lookup recs y with
  | none => simp
  | some x =>
    have := lookup_name h
    by_cases e : y = r.name <;> simp [this, e]

@[simp] theorem names_setRec (recs : List Rec) (r : Rec) : (setRec recs r).map (·.name) = recs.map (·.name) :=
  names_map _ _ (setRec_fun_name r)

theorem lookup_setRec_ne (recs : List Rec) (r : Rec) (y : String) (h : y ≠ r.name) :
    lookup (setRec recs r) y = lookup recs y := by simp [h]

theorem lookup_setRec_of_some {recs : List Rec} {r x : Rec} {y : String} (h : lookup recs y = some x)
    (hn : r.name = x.name) : lookup (setRec recs r) y = some r := by simp [h, hn, lookup_name h]

theorem lookup_setRec_self (recs : List Rec) (r : Rec) (h : (lookup recs r.name).isSome) :
    lookup (setRec recs r) r.name = some r :=
  let ⟨_, hx⟩ := Option.isSome_iff_exists.mp h
  lookup_setRec_of_some hx (lookup_name hx).symm

theorem mem_setRec_cases {recs : List Rec} {r x : Rec} (h : x ∈ setRec recs r) :
    (x ∈ recs ∧ x.name ≠ r.name) ∨ x = r := by
  simp only [setRec, List.mem_map] at h
  obtain ⟨y, hy, rfl⟩ := h
  split
  · exact .inr rfl
  · next hne => exact .inl ⟨hy, by simpa using hne⟩

theorem mem_setRec {recs : List Rec} {r x : Rec} (h : x ∈ setRec recs r) : x ∈ recs ∨ x = r :=
  (mem_setRec_cases h).imp_left And.left

theorem setRec_eq_self {recs : List Rec} {r : Rec} (h : ∀ x ∈ recs, x.name = r.name → x = r) : setRec recs r = recs := by
  refine (List.map_congr_left fun x hx => ?_).trans (List.map_id recs)
  by_cases e : x.name = r.name
  · simp [h x hx e]
  · simp [e]

theorem setRec_none {l : List Rec} {r : Rec} (h : lookup l r.name = none) : setRec l r = l :=
  setRec_eq_self fun x hx e => absurd (beq_iff_eq.mpr e) (List.find?_eq_none.mp h x hx)

theorem setRec_same (recs : List Rec) (r : Rec) (h : lookup recs r.name = some r)
    (huniq : ∀ x ∈ recs, x.name = r.name → x = r) : setRec recs r = recs :=
  setRec_eq_self huniq

@[simp] theorem lookup_append (l m : List Rec) (y : String) : lookup (l ++ m) y = (lookup l y).or (lookup m y) := by
  simp [lookup, List.find?_append]

@[simp] theorem lookup_singleton (s : Rec) (y : String) : lookup [s] y = if s.name = y then some s else none := by
  simp only [lookup, List.find?_cons, List.find?_nil]
  cases e : s.name == y <;> simp_all

theorem setRec_append_stub {l : List Rec} {s r : Rec} (hs : s.name = r.name) (h : lookup l r.name = none) :
    setRec (l ++ [s]) r = l ++ [r] := by
  have e : setRec (l ++ [s]) r = setRec l r ++ setRec [s] r := by simp [setRec]
  rw [e, setRec_none h]
  simp [setRec, hs]

theorem lookup_filter {recs : List Rec} {p : Rec → Bool} {y : String} (h : ∀ r, lookup recs y = some r → p r = true) :
    lookup (recs.filter p) y = lookup recs y := by
  cases hl : lookup recs y with
  | none => exact List.find?_eq_none.mpr fun x hx => List.find?_eq_none.mp hl x (List.mem_filter.mp hx).1
  | some r =>
    obtain ⟨hy, as, bs, rfl, has⟩ := List.find?_eq_some_iff_append.mp hl
    rw [List.filter_append, List.filter_cons_of_pos (h r hl), lookup, List.find?_append,
      List.find?_eq_none.mpr fun x hx => by simpa using has x (List.mem_filter.mp hx).1, Option.none_or]
    exact List.find?_cons_of_pos hy

theorem lookup_filter_uniq {recs : List Rec} (hu : (recs.map (·.name)).Nodup) (p : Rec → Bool) (y : String) :
    lookup (recs.filter p) y = (lookup recs y).filter p := by
  cases hl : lookup recs y with
  | none => exact (lookup_filter fun r hr => by cases hl.symm.trans hr).trans hl
  | some r =>
    by_cases hp : p r = true
    · rw [Option.filter_some, if_pos hp, ← hl]
      exact lookup_filter fun r' hr' => by cases hl.symm.trans hr'; exact hp
    · rw [Option.filter_some, if_neg hp]
      cases hf : lookup (recs.filter p) y with
      | none => rfl
      | some r' =>
        have hm := List.mem_filter.mp (lookup_mem hf)
        cases List.eq_of_nodup_map hu hm.1 (lookup_mem hl) ((lookup_name hf).trans (lookup_name hl).symm)
        exact absurd hm.2 hp

theorem delTimer_nil (name : String) : delTimer [] name = [] := rfl

attribute [simp] delTimer_nil

theorem delTimer_sub {ts : List Timer} {name : String} {t : Timer} (h : t ∈ delTimer ts name) :
    t ∈ ts ∧ t.node ≠ name := by
  simp only [delTimer, List.mem_filter, bne_iff_ne, ne_eq] at h
  exact h

theorem deadOrLeft_ite (c : Prop) [Decidable c] : (if c then St.left else St.dead).deadOrLeft = true := by
  split <;> rfl

def rank : St → Nat
  | .alive => 0 | .suspect => 1 | .dead => 2 | .left => 2

/-- the precedence key of a view of a member: (0,0) unknown, else (incarnation+1, rank) with
alive < suspect < dead = left -/
def key : Option Rec → Nat × Nat
  | none => (0, 0)
  | some r => (r.inc + 1, rank r.st)

def kle (a b : Nat × Nat) : Prop := a.1 < b.1 ∨ (a.1 = b.1 ∧ a.2 ≤ b.2)

theorem kle_refl (a : Nat × Nat) : kle a a := Or.inr ⟨rfl, Nat.le_refl _⟩

theorem kle_none (k : Option Rec) : kle (key none) (key k) := by
  cases k with
  | none => exact kle_refl _
  | some r => exact .inl (Nat.succ_pos _)

theorem kle_trans {a b c : Nat × Nat} (h1 : kle a b) (h2 : kle b c) : kle a c := by
  rcases h1 with h1 | ⟨e1, h1⟩ <;> rcases h2 with h2 | ⟨e2, h2⟩
  · exact .inl (Nat.lt_trans h1 h2)
  · exact .inl (e2 ▸ h1)
  · exact .inl (e1 ▸ h2)
  · exact .inr ⟨e1.trans e2, Nat.le_trans h1 h2⟩

theorem kle_key {r r' : Rec} (h : r.inc ≤ r'.inc) (hst : r.inc = r'.inc → rank r.st ≤ rank r'.st) :
    kle (key (some r)) (key (some r')) :=
  (Nat.lt_or_eq_of_le h).elim (fun h => .inl (Nat.succ_lt_succ h)) fun e => .inr ⟨congrArg (· + 1) e, hst e⟩

end Swim.Merge
