import Swim.Lemmas.Merge
/-! What each merge rule returns: `refute` by components; one case lemma per rule and the converses for the
branches that a hypothesis determines; the other operations in terms of the three rules; what every operation keeps
(unique names, the configuration). Nothing outside this file unfolds a rule.

Names: `aliveNode_*`, `suspectNode_*`, `deadNode_*`, `timerFire_*`, `leave_*` say what the rule returns - `_cases`
(`aliveNode_known` for a member on record): every outcome, in the order of the definition; `_frame`: the records it
leaves alone; the others: the outcome under hypotheses that determine it, the record always looked up at the claim's
subject. `alive_uniq`, `alive_cfg`, ... say what a rule keeps. The two entries most proofs start from: `aliveNode_elim`
(a claim about an unknown member reduces to the known case, on the node with the stub) and `step_inv` (what the three
rules, reaping, ageing and the two flags keep, every operation keeps). -/
namespace Swim.Merge

/-- `ha`: nothing wraps while the accusation is below the largest uint32; at `u32 - 1` the result is 0
(`C02_refute_wrap_witness`). -/
theorem refuteInc_eq_max (cur acc : Nat) (ha : acc < u32 - 1) :
    refuteInc cur acc = max ((cur + 1) % u32) (acc + 1) := by
  have ha' : acc + 1 < u32 := Nat.add_lt_of_lt_sub ha
  unfold refuteInc
  generalize (cur + 1) % u32 = i
  dsimp only
  by_cases h : acc ≥ i
  · -- the distance `acc - i + 1` is added modulo 2^32
    have hd : acc - i + 1 < u32 := Nat.lt_of_le_of_lt (Nat.succ_le_succ (Nat.sub_le ..)) ha'
    rw [if_pos h, Nat.sub_add_comm h, Nat.add_right_comm, Nat.add_mod_right, Nat.mod_eq_of_lt hd, ← Nat.add_assoc,
      Nat.add_sub_cancel' h, Nat.mod_eq_of_lt ha', Nat.max_eq_right (Nat.le_succ_of_le h)]
  · rw [if_neg h, Nat.max_eq_left (Nat.succ_le_of_lt (Nat.lt_of_not_le h))]

theorem lt_refuteInc (cur acc : Nat) (ha : acc < u32 - 1) : acc < refuteInc cur acc := by
  rw [refuteInc_eq_max cur acc ha]
  exact Nat.lt_of_lt_of_le (Nat.lt_succ_self acc) (Nat.le_max_right ..)

theorem refuteInc_eq (cur acc : Nat) (h : acc ≤ cur) (hb : cur + 1 < u32) : refuteInc cur acc = cur + 1 := by
  rw [refuteInc_eq_max cur acc (Nat.lt_sub_of_add_lt (Nat.lt_of_le_of_lt (Nat.succ_le_succ h) hb)),
    Nat.mod_eq_of_lt hb, Nat.max_eq_left (Nat.succ_le_succ h)]

section
variable (n : Node) (me : Rec) (acc : Nat)

@[simp] theorem refute_recs :
    (refute n me acc).1.recs = setRec n.recs { me with inc := refuteInc n.selfInc acc } := rfl

-- `by rw [refute]`, not `rfl`: the unifier would first unfold `refuteInc` and `bumpScore` on both sides
@[simp] theorem refute_selfInc : (refute n me acc).1.selfInc = refuteInc n.selfInc acc := by rw [refute]

@[simp] theorem refute_score : (refute n me acc).1.score = bumpScore n 1 := by rw [refute]

@[simp] theorem refute_timers : (refute n me acc).1.timers = n.timers := rfl

@[simp] theorem refute_cfg : (refute n me acc).1.cfg = n.cfg := rfl

@[simp] theorem refute_hasLeft : (refute n me acc).1.hasLeft = n.hasLeft := rfl

@[simp] theorem refute_outs :
    (refute n me acc).2 = [.bcast ("@" ++ me.name) .alive me.name (refuteInc n.selfInc acc) "" false] := rfl

theorem refute_eq (hacc : acc ≤ n.selfInc) (hb : n.selfInc + 1 < u32) :
    refute n me acc =
      ({ n with selfInc := n.selfInc + 1, recs := setRec n.recs { me with inc := n.selfInc + 1 }, score := bumpScore n 1 },
       [Out.bcast ("@" ++ me.name) .alive me.name (n.selfInc + 1) "" false]) := by
  simp [refute, refuteInc_eq n.selfInc acc hacc hb]

end

theorem Timer.confirm_node (t : Timer) (frm : String) : (t.confirm frm).1.node = t.node := by
  unfold Timer.confirm
  by_cases h1 : t.n ≥ t.k
  · rw [if_pos h1]
  · rw [if_neg h1]
    by_cases h2 : t.confirmers.contains frm = true
    · rw [if_pos h2]
    · rw [if_neg h2]

theorem Timer.confirm_ok (t : Timer) (frm : String) (h : t.confirmers.Nodup ∧ t.n + 1 = t.confirmers.length ∧ t.n ≤ t.k) :
    (t.confirm frm).1.confirmers.Nodup ∧ (t.confirm frm).1.n + 1 = (t.confirm frm).1.confirmers.length ∧
    (t.confirm frm).1.n ≤ (t.confirm frm).1.k := by
  unfold Timer.confirm
  by_cases h1 : t.n ≥ t.k
  · rw [if_pos h1]; exact h
  rw [if_neg h1]
  by_cases h2 : t.confirmers.contains frm = true
  · rw [if_pos h2]; exact h
  rw [if_neg h2]
  refine ⟨h.1.concat fun ha => h2 (List.contains_iff_mem.mpr ha), ?_, Nat.succ_le_of_lt (Nat.lt_of_not_le h1)⟩
  · rw [List.length_append]
    exact congrArg (· + 1) h.2.1

/-- In order: nothing; a confirmation counted on the running timer; over an alive record without timer, the refutation
(own name) or the suspicion started (another). The first carries no test, so the converses are proved from the definition. -/
theorem suspectNode_cases (n : Node) (s : Claim) (env : Env) :
    suspectNode n s env = (n, []) ∨
    ∃ r, lookup n.recs s.node = some r ∧ r.inc ≤ s.inc ∧
      ((∃ t, n.timers.find? (·.node == s.node) = some t ∧ (t.confirm s.frm).2 = true ∧
          suspectNode n s env =
            ({ n with timers := n.timers.map fun x => if x.node == s.node then (t.confirm s.frm).1 else x },
             [.bcast s.node .suspect s.node s.inc s.frm false])) ∨
       (n.timers.find? (·.node == s.node) = none ∧ r.st = .alive ∧
         ((s.node = n.cfg.self ∧ suspectNode n s env = refute n r s.inc) ∨
          (s.node ≠ n.cfg.self ∧ suspectNode n s env =
            ({ n with
                recs := setRec n.recs { r with inc := s.inc, st := .suspect, changed := some env.now }
                timers := n.timers ++ [⟨s.node, if n.numNodes < n.cfg.suspicionK + 2 then 0 else n.cfg.suspicionK, 0,
                  [s.frm], env.now⟩] },
             [.bcast s.node .suspect s.node s.inc s.frm false,
              .newTimer s.node (if n.numNodes < n.cfg.suspicionK + 2 then 0 else n.cfg.suspicionK) s.frm]))))) := by
  unfold suspectNode
  cases hl : lookup n.recs s.node with
  | none => exact .inl rfl
  | some r =>
    have hn := lookup_name hl
    by_cases h1 : s.inc < r.inc
    · exact .inl (if_pos h1)
    · have hinc : r.inc ≤ s.inc := Nat.le_of_not_lt h1
      simp only [h1, ↓reduceIte]
      cases ht : n.timers.find? (·.node == s.node) with
      | some t =>
        cases hc : (t.confirm s.frm).2
        · exact .inl (by simp [hc])
        · exact .inr ⟨r, rfl, hinc, .inl ⟨t, rfl, hc, by simp [hc]⟩⟩
      | none =>
        by_cases hst : r.st = .alive
        case neg => exact .inl (by simp [hst])
        by_cases hs : s.node = n.cfg.self
        · exact .inr ⟨r, rfl, hinc, .inr ⟨rfl, hst, .inl ⟨hs, by simp [hst, hn, hs]⟩⟩⟩
        · exact .inr ⟨r, rfl, hinc, .inr ⟨rfl, hst, .inr ⟨hs, by simp [hst, hn, hs]⟩⟩⟩

/-- In order: nothing (unknown, or older than the record); held dead or left: the timer goes; the running node itself:
refutation; else recorded dead, or left if self-signed. -/
theorem deadNode_cases (n : Node) (d : Claim) (env : Env) :
    ((∀ r, lookup n.recs d.node = some r → d.inc < r.inc) ∧ deadNode n d env = (n, [])) ∨
    ∃ r, lookup n.recs d.node = some r ∧ r.inc ≤ d.inc ∧
      ((r.st.deadOrLeft = true ∧ deadNode n d env = ({ n with timers := delTimer n.timers d.node }, [])) ∨
       (r.st.deadOrLeft = false ∧
         ((d.node = n.cfg.self ∧ n.hasLeft = false ∧
            deadNode n d env = refute { n with timers := delTimer n.timers d.node } r d.inc) ∨
          ((d.node = n.cfg.self → n.hasLeft = true) ∧ deadNode n d env =
            ({ n with
                timers := delTimer n.timers d.node
                recs := setRec n.recs
                  { r with inc := d.inc, st := if d.node == d.frm then .left else .dead, changed := some env.now } },
             [.bcast d.node .dead d.node d.inc d.frm (d.node == n.cfg.self), .leave d.node]))))) := by
  unfold deadNode
  cases hl : lookup n.recs d.node with
  | none => exact .inl ⟨nofun, rfl⟩
  | some r =>
    have hn := lookup_name hl
    by_cases h1 : d.inc < r.inc
    · exact .inl ⟨fun _ e => by cases e; exact h1, if_pos h1⟩
    · refine .inr ⟨r, rfl, Nat.le_of_not_lt h1, ?_⟩
      cases hd : r.st.deadOrLeft
      · refine .inr ⟨rfl, ?_⟩
        by_cases hs : d.node = n.cfg.self ∧ n.hasLeft = false
        · exact .inl ⟨hs.1, hs.2, by simp [h1, hd, hn, hs.1, hs.2]⟩
        · refine .inr ⟨fun e => by simpa [e] using hs, ?_⟩
          have : (d.node == n.cfg.self && !n.hasLeft) = false := by simpa using hs
          simp [h1, hd, hn, this]
      · exact .inl ⟨rfl, by simp [h1, hd]⟩

theorem suspectNode_self (n : Node) (s : Claim) (env : Env) (me : Rec)
    (hnode : s.node = n.cfg.self) (hme : lookup n.recs s.node = some me)
    (halive : me.st = .alive) (hnt : n.timers.find? (·.node == s.node) = none) (hinc : me.inc ≤ s.inc) :
    suspectNode n s env = refute n me s.inc := by
  have h1 : ¬ s.inc < me.inc := Nat.not_lt.mpr hinc
  unfold suspectNode
  simp only [hme, h1, ↓reduceIte, hnt, halive, bne_self_eq_false, Bool.false_eq_true, lookup_name hme,
    beq_iff_eq.mpr hnode]

theorem suspectNode_other (n : Node) (s : Claim) (env : Env) (r : Rec)
    (hs : s.node ≠ n.cfg.self) (hr : lookup n.recs s.node = some r) (hal : r.st = .alive)
    (hnt : n.timers.find? (·.node == s.node) = none) (hinc : r.inc ≤ s.inc) :
    suspectNode n s env =
      ({ n with
          recs := setRec n.recs { r with inc := s.inc, st := .suspect, changed := some env.now }
          timers := n.timers ++ [⟨s.node, if n.numNodes < n.cfg.suspicionK + 2 then 0 else n.cfg.suspicionK, 0,
            [s.frm], env.now⟩] },
       [.bcast s.node .suspect s.node s.inc s.frm false,
        .newTimer s.node (if n.numNodes < n.cfg.suspicionK + 2 then 0 else n.cfg.suspicionK) s.frm]) := by
  have h1 : ¬ s.inc < r.inc := Nat.not_lt.mpr hinc
  unfold suspectNode
  simp [hr, h1, hnt, hal, lookup_name hr, hs]

theorem deadNode_self (n : Node) (d : Claim) (env : Env) (me : Rec)
    (hnode : d.node = n.cfg.self) (hme : lookup n.recs d.node = some me)
    (hd : me.st.deadOrLeft = false) (hnl : n.hasLeft = false) (hinc : me.inc ≤ d.inc) :
    deadNode n d env = refute { n with timers := delTimer n.timers d.node } me d.inc := by
  rcases deadNode_cases n d env with ⟨h, _⟩ | ⟨r, hr, _, ⟨hd', _⟩ | ⟨_, ⟨_, _, e⟩ | ⟨hl, _⟩⟩⟩
  · exact absurd (h me hme) (Nat.not_lt.mpr hinc)
  · cases hme.symm.trans hr; rw [hd] at hd'; cases hd'
  · cases hme.symm.trans hr; exact e
  · rw [hl hnode] at hnl; cases hnl

/-- `hs`: the local node records its own death only once it has left (Leave); before that it refutes (`deadNode_self`) -/
theorem deadNode_recorded (n : Node) (d : Claim) (env : Env) (r : Rec)
    (hs : d.node = n.cfg.self → n.hasLeft = true) (hr : lookup n.recs d.node = some r) (hd : r.st.deadOrLeft = false)
    (hinc : r.inc ≤ d.inc) :
    deadNode n d env =
      ({ n with
          timers := delTimer n.timers d.node
          recs := setRec n.recs
            { r with inc := d.inc, st := if d.node == d.frm then .left else .dead, changed := some env.now } },
       [.bcast d.node .dead d.node d.inc d.frm (d.node == n.cfg.self), .leave d.node]) := by
  rcases deadNode_cases n d env with ⟨h, _⟩ | ⟨r', hr', _, ⟨hd', _⟩ | ⟨_, ⟨hs', hnl, _⟩ | ⟨_, e⟩⟩⟩
  · exact absurd (h r hr) (Nat.not_lt.mpr hinc)
  · cases hr.symm.trans hr'; rw [hd] at hd'; cases hd'
  · rw [hs hs'] at hnl; cases hnl
  · cases hr.symm.trans hr'; exact e

/-- a different, admitted address taking over a name whose holder left or has been dead
longer than the reclaim time: the only permitted regression (and reaping) -/
def takeover (n : Node) (a : AliveMsg) (env : Env) : Prop :=
  ∃ r, lookup n.recs a.node = some r ∧ (r.addr ≠ a.addr ∨ r.port ≠ a.port) ∧
    env.ipAllowed = true ∧ reclaimable n r = true

theorem decideKnown_cases (n : Node) (a : AliveMsg) (b : Bool) (r : Rec) (upd : Bool) :
    decideKnown n a b r upd false = .ignore ∨
    (a.node = n.cfg.self ∧ b = false ∧ (a.inc = r.inc ∧ a.md = r.md ∧ a.vsn = r.vsn) ∧
      decideKnown n a b r upd false = .delTimerOnly false) ∨
    (a.node = n.cfg.self ∧ b = false ∧ (r.inc ≤ a.inc ∧ ¬ (a.inc = r.inc ∧ a.md = r.md ∧ a.vsn = r.vsn)) ∧
      decideKnown n a b r upd false = .refuteSelf false) ∨
    ((a.node = n.cfg.self → b = true ∧ r.inc ≤ a.inc) ∧ (a.node ≠ n.cfg.self → r.inc < a.inc ∨ upd = true) ∧
      decideKnown n a b r upd false = .accept false) := by
  unfold decideKnown
  by_cases hs : a.node = n.cfg.self
  · -- the local node: `updatesNode` plays no part
    simp only [beq_iff_eq.mpr hs, Bool.not_true, Bool.and_false, Bool.false_and, Bool.and_true, Bool.false_eq_true,
      ↓reduceIte, decide_eq_true_eq, Bool.not_eq_true', Bool.and_eq_true, beq_iff_eq]
    by_cases h1 : a.inc < r.inc
    · exact .inl (if_pos h1)
    rw [if_neg h1]
    cases b
    · by_cases h2 : a.inc = r.inc ∧ a.md = r.md ∧ a.vsn = r.vsn
      · exact .inr (.inl ⟨hs, rfl, h2, by rw [if_pos rfl, if_pos ⟨⟨h2.1, h2.2.1⟩, h2.2.2⟩]⟩)
      · exact .inr (.inr (.inl ⟨hs, rfl, ⟨Nat.le_of_not_lt h1, h2⟩, by rw [if_pos rfl, if_neg fun h => h2 ⟨h.1.1, h.1.2, h.2⟩]⟩))
    · exact .inr (.inr (.inr ⟨fun _ => ⟨rfl, Nat.le_of_not_lt h1⟩, fun h => absurd hs h, if_neg Bool.noConfusion⟩))
  · -- another member: stale unless newer or a takeover
    simp only [beq_eq_false_iff_ne.mpr hs, Bool.not_false, Bool.and_true, Bool.and_false, Bool.false_eq_true,
      ↓reduceIte, Bool.and_eq_true, decide_eq_true_eq, Bool.not_eq_true']
    by_cases h1 : a.inc ≤ r.inc ∧ upd = false
    · exact .inl (if_pos h1)
    · refine .inr (.inr (.inr ⟨fun h => absurd h hs, fun _ => ?_, if_neg h1⟩))
      cases upd
      · exact .inl (Nat.lt_of_not_le fun h => h1 ⟨h, rfl⟩)
      · exact .inr rfl

/-- the filters that drop a claim before any record is consulted -/
def dropped (n : Node) (a : AliveMsg) (env : Env) : Bool :=
  (n.hasLeft && a.node == n.cfg.self) || vsnBad a.vsn ||
    (n.cfg.hasAliveDelegate && (a.vsn.length < 6 || !env.delegateOk))

theorem dropped_eq_false_iff {n : Node} {a : AliveMsg} {env : Env} :
    dropped n a env = false ↔ (n.hasLeft && a.node == n.cfg.self) = false ∧ vsnBad a.vsn = false ∧
      (n.cfg.hasAliveDelegate && (a.vsn.length < 6 || !env.delegateOk)) = false := by
  simp only [dropped, Bool.or_eq_false_iff, and_assoc]

theorem dropped_eq_false {n : Node} {a : AliveMsg} {env : Env} (hself : a.node ≠ n.cfg.self)
    (hv : vsnBad a.vsn = false)
    (hdel : (n.cfg.hasAliveDelegate && (a.vsn.length < 6 || !env.delegateOk)) = false) : dropped n a env = false :=
  dropped_eq_false_iff.mpr ⟨by rw [beq_eq_false_iff_ne.mpr hself, Bool.and_false], hv, hdel⟩

theorem dropped_of_left {n : Node} {a : AliveMsg} (env : Env) (hl : n.hasLeft = true) (hs : a.node = n.cfg.self) :
    dropped n a env = true := by
  rw [dropped, hl, beq_iff_eq.mpr hs]; rfl

theorem running_of_passed {n : Node} {a : AliveMsg} {env : Env} (hd : dropped n a env = false)
    (hs : a.node = n.cfg.self) : n.hasLeft = false :=
  Bool.eq_false_iff.mpr fun hl => Bool.noConfusion ((dropped_of_left env hl hs).symm.trans hd)

theorem aliveDecide_dropped {n : Node} {a : AliveMsg} {env : Env} (b : Bool) (hd : dropped n a env = true) :
    aliveDecide n a b env = .ignore := by
  unfold aliveDecide
  by_cases h1 : (n.hasLeft && a.node == n.cfg.self) = true
  · rw [if_pos h1]
  by_cases h2 : vsnBad a.vsn = true
  · rw [if_neg h1, if_pos h2]
  rw [if_neg h1, if_neg h2, if_pos (by simpa [dropped, h1, h2] using hd)]

theorem aliveDecide_passed {n : Node} {a : AliveMsg} {env : Env} {r : Rec} (b : Bool)
    (hd : dropped n a env = false) (hr : lookup n.recs a.node = some r) :
    aliveDecide n a b env =
      if r.addr != a.addr || r.port != a.port then
        if !env.ipAllowed then .ignore else if reclaimable n r then decideKnown n a b r true false else .conflict
      else decideKnown n a b r false false := by
  obtain ⟨h1, h2, h3⟩ := dropped_eq_false_iff.mp hd
  simp only [aliveDecide, h1, h2, h3, hr, Bool.false_eq_true, ↓reduceIte]

theorem aliveDecide_unknown {n : Node} {a : AliveMsg} {env : Env} (b : Bool)
    (hd : dropped n a env = false) (hl : lookup n.recs a.node = none) :
    aliveDecide n a b env = if !env.ipAllowed then .ignore else decideKnown n a b (stub a) false true := by
  obtain ⟨h1, h2, h3⟩ := dropped_eq_false_iff.mp hd
  simp only [aliveDecide, h1, h2, h3, hl, Bool.false_eq_true, ↓reduceIte]

/-- `.ignore`: a filter, or a new address that is not admitted; `.conflict`: a new address and a holder that cannot be
reclaimed; else `decideKnown` on the held record, `upd` (Go's `updatesNode`) being set only in a takeover -/
theorem aliveDecide_known (n : Node) (a : AliveMsg) (b : Bool) (env : Env) (r : Rec)
    (hr : lookup n.recs a.node = some r) :
    aliveDecide n a b env = .ignore ∨
    ((r.addr ≠ a.addr ∨ r.port ≠ a.port) ∧ env.ipAllowed = true ∧ reclaimable n r = false ∧
      aliveDecide n a b env = .conflict) ∨
    ((a.node = n.cfg.self → n.hasLeft = false) ∧
      ∃ upd, (upd = true → takeover n a env) ∧ ((r.addr = a.addr ∧ r.port = a.port) ∨ takeover n a env) ∧
        aliveDecide n a b env = decideKnown n a b r upd false) := by
  cases hd : dropped n a env
  case true => exact .inl (aliveDecide_dropped b hd)
  have hleft : a.node = n.cfg.self → n.hasLeft = false := running_of_passed hd
  rw [aliveDecide_passed b hd hr]
  by_cases h5 : (r.addr != a.addr || r.port != a.port) = true
  · have h5' : r.addr ≠ a.addr ∨ r.port ≠ a.port := by simpa using h5
    rw [if_pos h5]
    cases h4 : env.ipAllowed
    · exact .inl rfl
    cases h6 : reclaimable n r
    · exact .inr (.inl ⟨h5', rfl, rfl, rfl⟩)
    · exact .inr (.inr ⟨hleft, true, fun _ => ⟨r, hr, h5', h4, h6⟩, .inr ⟨r, hr, h5', h4, h6⟩, rfl⟩)
  · rw [if_neg h5]
    exact .inr (.inr ⟨hleft, false, Bool.noConfusion, .inl (by simpa using h5), rfl⟩)

@[simp] theorem acceptRec_name (r : Rec) (a : AliveMsg) (env : Env) : (acceptRec r a env).name = r.name := rfl

@[simp] theorem acceptRec_st (r : Rec) (a : AliveMsg) (env : Env) : (acceptRec r a env).st = .alive := rfl

@[simp] theorem acceptRec_inc (r : Rec) (a : AliveMsg) (env : Env) : (acceptRec r a env).inc = a.inc := rfl

@[simp] theorem acceptRec_addr (r : Rec) (a : AliveMsg) (env : Env) : (acceptRec r a env).addr = a.addr := rfl

@[simp] theorem acceptRec_port (r : Rec) (a : AliveMsg) (env : Env) : (acceptRec r a env).port = a.port := rfl

@[simp] theorem acceptRec_md (r : Rec) (a : AliveMsg) (env : Env) : (acceptRec r a env).md = a.md := rfl

@[simp] theorem acceptRec_vsn (r : Rec) (a : AliveMsg) (env : Env) :
    (acceptRec r a env).vsn = if a.vsn.length ≥ 6 then a.vsn.take 6 else r.vsn := rfl

def acceptOuts (a : AliveMsg) (nt : Bool) (r : Rec) : List Out :=
  [.bcast a.node .alive a.node a.inc "" nt] ++
    if r.st.deadOrLeft then [.join a.node a.addr a.port a.md] else if r.md != a.md then [.update a.node a.md] else []

/-- The five outcomes of an alive claim about a member on record (nothing, conflict, echo of the own record,
refutation, acceptance), each with the tests that lead to it. The first carries none: the filters, a stale claim and
an address that is not admitted all end there, which is why the converses below are proved from the definition. -/
theorem aliveNode_known (n : Node) (a : AliveMsg) (nt b : Bool) (env : Env) (r : Rec)
    (hr : lookup n.recs a.node = some r) :
    aliveNode n a nt b env = (n, []) ∨
    ((r.addr ≠ a.addr ∨ r.port ≠ a.port) ∧ env.ipAllowed = true ∧ reclaimable n r = false ∧
      aliveNode n a nt b env = (n, if n.cfg.hasConflictDelegate then [.conflict a.node a.addr a.port] else [])) ∨
    (a.node = n.cfg.self ∧ n.hasLeft = false ∧ b = false ∧ (a.inc = r.inc ∧ a.md = r.md ∧ a.vsn = r.vsn) ∧
      aliveNode n a nt b env = ({ n with timers := delTimer n.timers a.node }, [])) ∨
    (a.node = n.cfg.self ∧ n.hasLeft = false ∧ b = false ∧
      (r.inc ≤ a.inc ∧ ¬ (a.inc = r.inc ∧ a.md = r.md ∧ a.vsn = r.vsn)) ∧
      aliveNode n a nt b env =
        ((refute { n with timers := delTimer n.timers a.node } r a.inc).1,
         (refute { n with timers := delTimer n.timers a.node } r a.inc).2 ++
           if r.st.deadOrLeft then [.join r.name r.addr r.port r.md] else [])) ∨
    ((a.node = n.cfg.self → n.hasLeft = false ∧ b = true ∧ r.inc ≤ a.inc) ∧
      (a.node ≠ n.cfg.self → r.inc < a.inc ∨ takeover n a env) ∧
      ((r.addr = a.addr ∧ r.port = a.port) ∨ takeover n a env) ∧
      aliveNode n a nt b env =
        ({ n with timers := delTimer n.timers a.node, recs := setRec n.recs (acceptRec r a env) },
         acceptOuts a nt r)) := by
  unfold aliveNode
  rcases aliveDecide_known n a b env r hr with e | ⟨h1, h2, h3, e⟩ | ⟨hleft, upd, hupd, hadm, e⟩
  · rw [e]; exact .inl rfl
  · rw [e]; exact .inr (.inl ⟨h1, h2, h3, rfl⟩)
  rw [e]
  rcases decideKnown_cases n a b r upd with e | ⟨hs, hb, hi, e⟩ | ⟨hs, hb, hi, e⟩ | ⟨h1, h2, e⟩ <;> rw [e]
  · exact .inl rfl
  · exact .inr (.inr (.inl ⟨hs, hleft hs, hb, hi, rfl⟩))
  · exact .inr (.inr (.inr (.inl ⟨hs, hleft hs, hb, hi, by simp [aliveApply, hr]⟩)))
  · exact .inr (.inr (.inr (.inr ⟨fun h => ⟨hleft h, h1 h⟩, fun h => (h2 h).imp_right hupd, hadm,
      by simp [aliveApply, hr, acceptOuts]⟩)))

theorem mem_acceptOuts {a : AliveMsg} {nt : Bool} {r : Rec} {o : Out} (ho : o ∈ acceptOuts a nt r) :
    o = .bcast a.node .alive a.node a.inc "" nt ∨ (r.st.deadOrLeft = true ∧ o = .join a.node a.addr a.port a.md) ∨
      (r.st.deadOrLeft = false ∧ o = .update a.node a.md) := by
  rcases List.mem_append.mp ho with ho | ho
  · exact .inl (List.mem_singleton.mp ho)
  · by_cases h1 : r.st.deadOrLeft = true
    · rw [if_pos h1] at ho; exact .inr (.inl ⟨h1, List.mem_singleton.mp ho⟩)
    · rw [if_neg h1] at ho
      by_cases h2 : (r.md != a.md) = true
      · rw [if_pos h2] at ho; exact .inr (.inr ⟨Bool.eq_false_iff.mpr h1, List.mem_singleton.mp ho⟩)
      · rw [if_neg h2] at ho; cases ho

theorem accept_no_leave {a : AliveMsg} {nt : Bool} {r : Rec} {o : Out}
    (ho : o ∈ acceptOuts a nt r) (nm : String) : o ≠ Out.leave nm := by
  rcases mem_acceptOuts ho with rfl | ⟨_, rfl⟩ | ⟨_, rfl⟩ <;> exact nofun

theorem conflict_outs {c : Bool} {nm : String} {ad p : Nat} {o : Out}
    (ho : o ∈ if c then [Out.conflict nm ad p] else []) : o = .conflict nm ad p := by
  cases c
  · cases ho
  · exact List.mem_singleton.mp ho

theorem aliveNode_known_other (n : Node) (a : AliveMsg) (nt b : Bool) (env : Env) (r : Rec)
    (hself : a.node ≠ n.cfg.self) (hr : lookup n.recs a.node = some r) :
    ((aliveNode n a nt b env).1 = n ∧ ∀ o ∈ (aliveNode n a nt b env).2, ∃ nm ad p, o = Out.conflict nm ad p) ∨
    ((r.inc < a.inc ∨ takeover n a env) ∧ ((r.addr = a.addr ∧ r.port = a.port) ∨ takeover n a env) ∧
      aliveNode n a nt b env =
        ({ n with timers := delTimer n.timers a.node, recs := setRec n.recs (acceptRec r a env) },
         acceptOuts a nt r)) := by
  rcases aliveNode_known n a nt b env r hr with e | ⟨_, _, _, e⟩ | ⟨hs, _⟩ | ⟨hs, _⟩ | ⟨_, hnew, hadm, e⟩
  · rw [e]; exact .inl ⟨rfl, fun _ ho => nomatch ho⟩
  · rw [e]; exact .inl ⟨rfl, fun _ ho => ⟨_, _, _, conflict_outs ho⟩⟩
  · exact absurd hs hself
  · exact absurd hs hself
  · exact .inr ⟨hnew hself, hadm, e⟩

theorem aliveNode_dropped (n : Node) (a : AliveMsg) (nt b : Bool) (env : Env) (hd : dropped n a env = true) :
    aliveNode n a nt b env = (n, []) := by
  rw [aliveNode, aliveDecide_dropped b hd]; rfl

theorem aliveNode_accept (n : Node) (a : AliveMsg) (nt b : Bool) (env : Env) (r : Rec)
    (hself : a.node ≠ n.cfg.self) (hr : lookup n.recs a.node = some r) (hd : dropped n a env = false)
    (haddr : r.addr = a.addr ∧ r.port = a.port) (hinc : r.inc < a.inc) :
    aliveNode n a nt b env =
      ({ n with timers := delTimer n.timers a.node, recs := setRec n.recs (acceptRec r a env) },
       acceptOuts a nt r) := by
  have hl : (a.node == n.cfg.self) = false := by simpa using hself
  have : ¬ a.inc ≤ r.inc := Nat.not_le.mpr hinc
  rw [aliveNode, aliveDecide_passed b hd hr]
  simp [hl, hr, haddr.1, haddr.2, decideKnown, this, aliveApply, acceptOuts]

theorem aliveNode_takeover (n : Node) (a : AliveMsg) (nt b : Bool) (env : Env) (r : Rec)
    (hself : a.node ≠ n.cfg.self) (hr : lookup n.recs a.node = some r) (hd : dropped n a env = false)
    (ht : takeover n a env) :
    aliveNode n a nt b env =
      ({ n with timers := delTimer n.timers a.node, recs := setRec n.recs (acceptRec r a env) },
       acceptOuts a nt r) := by
  have hl : (a.node == n.cfg.self) = false := by simpa using hself
  obtain ⟨r', hr', hdf, hip, hrec⟩ := ht
  cases hr.symm.trans hr'
  have : (r.addr != a.addr || r.port != a.port) = true := by simpa using hdf
  rw [aliveNode, aliveDecide_passed b hd hr]
  simp [hl, hr, this, hip, hrec, decideKnown, aliveApply, acceptOuts]

/-- `bootstrap = true`: the node's own claim from `setAlive` / `UpdateNode` -/
theorem aliveNode_accept_self (n : Node) (a : AliveMsg) (nt : Bool) (env : Env) (r : Rec)
    (hself : a.node = n.cfg.self) (hr : lookup n.recs a.node = some r) (hd : dropped n a env = false)
    (haddr : r.addr = a.addr ∧ r.port = a.port) (hinc : r.inc ≤ a.inc) :
    aliveNode n a nt true env =
      ({ n with timers := delTimer n.timers a.node, recs := setRec n.recs (acceptRec r a env) },
       acceptOuts a nt r) := by
  have hl : (a.node == n.cfg.self) = true := by simpa using hself
  have : ¬ a.inc < r.inc := Nat.not_lt.mpr hinc
  rw [aliveNode, aliveDecide_passed true hd hr]
  simp [hl, hr, haddr.1, haddr.2, decideKnown, this, aliveApply, acceptOuts]

/-- `hnew`: an echo of the node's own record (same incarnation, metadata, versions) is not an accusation -/
theorem aliveNode_refute (n : Node) (a : AliveMsg) (nt : Bool) (env : Env) (me : Rec)
    (hself : a.node = n.cfg.self) (hme : lookup n.recs a.node = some me) (hd : dropped n a env = false)
    (haddr : me.addr = a.addr ∧ me.port = a.port) (hinc : me.inc ≤ a.inc)
    (hnew : ¬ (a.inc = me.inc ∧ a.md = me.md ∧ a.vsn = me.vsn)) :
    aliveNode n a nt false env =
      ((refute { n with timers := delTimer n.timers a.node } me a.inc).1,
       (refute { n with timers := delTimer n.timers a.node } me a.inc).2 ++
         if me.st.deadOrLeft then [.join me.name me.addr me.port me.md] else []) := by
  have hl : (a.node == n.cfg.self) = true := by simpa using hself
  have h1 : ¬ a.inc < me.inc := Nat.not_lt.mpr hinc
  have h2 : (a.inc == me.inc && a.md == me.md && a.vsn == me.vsn) = false := by simpa [and_assoc] using hnew
  rw [aliveNode, aliveDecide_passed false hd hme]
  simp [hl, hme, haddr.1, haddr.2, decideKnown, h1, h2, aliveApply]

theorem aliveNode_conflict (n : Node) (a : AliveMsg) (nt b : Bool) (env : Env) (r : Rec)
    (hr : lookup n.recs a.node = some r) (hd : dropped n a env = false)
    (hdiff : r.addr ≠ a.addr ∨ r.port ≠ a.port) (hip : env.ipAllowed = true) (hnr : reclaimable n r = false) :
    aliveNode n a nt b env = (n, if n.cfg.hasConflictDelegate then [.conflict a.node a.addr a.port] else []) := by
  have : (r.addr != a.addr || r.port != a.port) = true := by simpa using hdiff
  rw [aliveNode, aliveDecide_passed b hd hr, if_pos this]
  simp [hip, hnr, aliveApply]

theorem lookup_withStub_self {n : Node} {a : AliveMsg} (hl : lookup n.recs a.node = none) :
    lookup (withStub n a).recs a.node = some (stub a) := by simp [withStub, hl, stub]

theorem lookup_withStub_ne (n : Node) {a : AliveMsg} {y : String} (hy : y ≠ a.node) :
    lookup (withStub n a).recs y = lookup n.recs y := by simp [withStub, stub, Ne.symm hy]

theorem lookup_withStub_of_some {n : Node} (a : AliveMsg) {y : String} {r : Rec} (h : lookup n.recs y = some r) :
    lookup (withStub n a).recs y = some r := by simp [withStub, h]

/-- a claim about a member never heard of, if admitted, is handled as in state.go: insert the dead incarnation-0
stub, then proceed as for a known member -/
theorem aliveNode_unknown (n : Node) (a : AliveMsg) (nt b : Bool) (env : Env)
    (hl : lookup n.recs a.node = none) :
    aliveNode n a nt b env =
      if dropped n a env = false ∧ env.ipAllowed = true then aliveNode (withStub n a) a nt b env else (n, []) := by
  have hcfg : (withStub n a).cfg = n.cfg := rfl
  -- deciding with `isNew` set and inserting the stub on applying is deciding on the node with the stub
  have key : aliveApply n a nt env (decideKnown n a b (stub a) false true) =
      aliveApply (withStub n a) a nt env (decideKnown (withStub n a) a b (stub a) false false) := by
    unfold decideKnown
    rw [hcfg]
    dsimp only
    generalize (decide (a.inc ≤ (stub a).inc) && !(a.node == n.cfg.self) && !false) = c1
    generalize (decide (a.inc < (stub a).inc) && (a.node == n.cfg.self)) = c2
    generalize (!b && (a.node == n.cfg.self)) = c3
    generalize (a.inc == (stub a).inc && a.md == (stub a).md && a.vsn == (stub a).vsn) = c4
    cases c1
    case true => rfl
    cases c2
    case true => rfl
    cases c3
    case true => cases c4 <;> rfl
    rfl
  cases hd : dropped n a env
  case true => rw [aliveNode_dropped n a nt b env hd, if_neg (fun h => Bool.noConfusion h.1)]
  -- the stub changes neither the filters nor, once inserted, the address test
  have hd' : dropped (withStub n a) a env = false := hd
  have haddr : ((stub a).addr != a.addr || (stub a).port != a.port) = false := by simp [stub]
  rw [aliveNode, aliveNode, aliveDecide_unknown b hd hl, aliveDecide_passed b hd' (lookup_withStub_self hl), haddr]
  cases env.ipAllowed
  case false => rfl
  exact key

/-- Eliminator for `aliveNode`: `known` for a member on record, `noop` for a dropped claim; `stub` carries `R` back
from the node with the stub of an admitted unknown member inserted (`aliveNode_unknown`). -/
theorem aliveNode_elim {R : Node → Node × List Out → Prop} (a : AliveMsg) (nt b : Bool) (env : Env)
    (known : ∀ n r, lookup n.recs a.node = some r → R n (aliveNode n a nt b env))
    (noop : ∀ n, R n (n, []))
    (stub : ∀ n res, lookup n.recs a.node = none → env.ipAllowed = true → R (withStub n a) res → R n res)
    (n : Node) : R n (aliveNode n a nt b env) := by
  cases hl : lookup n.recs a.node with
  | some r => exact known n r hl
  | none =>
    rw [aliveNode_unknown n a nt b env hl]
    split
    · next h => exact stub n _ hl h.2 (known _ _ (lookup_withStub_self hl))
    · exact noop n

/-- Unchanged (at most a conflict callback) or accepted over `m`, `r`: the node and the held record, or `withStub n a`
and the stub. `hinc`: incarnation 0 about a member never heard of inserts the stub and stops (`.stubOnly`). -/
theorem aliveNode_other (n : Node) (a : AliveMsg) (nt b : Bool) (env : Env)
    (hself : a.node ≠ n.cfg.self) (hinc : 0 < a.inc) :
    ((aliveNode n a nt b env).1 = n ∧ ∀ o ∈ (aliveNode n a nt b env).2, ∃ nm ad p, o = Out.conflict nm ad p) ∨
    ∃ m r, (m = n ∨ (lookup n.recs a.node = none ∧ m = withStub n a ∧ r = stub a)) ∧
      lookup m.recs a.node = some r ∧
      aliveNode n a nt b env =
        ({ m with timers := delTimer m.timers a.node, recs := setRec m.recs (acceptRec r a env) },
         acceptOuts a nt r) := by
  cases hl : lookup n.recs a.node with
  | some r =>
    rcases aliveNode_known_other n a nt b env r hself hl with h | ⟨_, _, e⟩
    · exact .inl h
    · exact .inr ⟨n, r, .inl rfl, hl, e⟩
  | none =>
    rw [aliveNode_unknown n a nt b env hl]
    by_cases hd : dropped n a env = false ∧ env.ipAllowed = true
    · rw [if_pos hd]
      exact .inr ⟨withStub n a, stub a, .inr ⟨rfl, rfl, rfl⟩, lookup_withStub_self hl,
        aliveNode_accept (withStub n a) a nt b env _ hself (lookup_withStub_self hl) hd.1 ⟨rfl, rfl⟩ hinc⟩
    · rw [if_neg hd]
      exact .inl ⟨rfl, fun _ ho => nomatch ho⟩

def PushState.toAlive (r : PushState) : AliveMsg := { inc := r.inc, node := r.name, addr := r.addr, port := r.port, md := r.md, vsn := r.vsn }
def PushState.toEnv (r : PushState) (now : Nat) : Env := { now, ipAllowed := r.ipAllowed, delegateOk := r.delegateOk, offset := r.offset }

/-- In order: nothing (no record, or the suspicion the timer was armed for is over); the dead claim at the held incarnation. -/
theorem timerFire_cases (n : Node) (node : String) (ca : Nat) (env : Env) :
    ((∀ r, lookup n.recs node = some r → ¬ (r.st = .suspect ∧ r.changed = some ca)) ∧
      timerFire n node ca env = (n, [])) ∨
    ∃ r, lookup n.recs node = some r ∧ r.st = .suspect ∧ r.changed = some ca ∧
      timerFire n node ca env = deadNode n { inc := r.inc, node := node, frm := n.cfg.self } env := by
  unfold timerFire
  cases hl : lookup n.recs node with
  | none => exact .inl ⟨(fun _ e => nomatch e), rfl⟩
  | some r =>
    by_cases h : r.st = .suspect ∧ r.changed = some ca
    · exact .inr ⟨r, rfl, h.1, h.2, by simp [h.1, h.2, lookup_name hl]⟩
    · exact .inl ⟨fun _ e => by cases e; exact h, if_neg (by simpa using h)⟩

theorem timerFire_suspect (n : Node) (node : String) (ca : Nat) (env : Env) (r : Rec)
    (hr : lookup n.recs node = some r) (hs : r.st = .suspect) (hc : r.changed = some ca) :
    timerFire n node ca env = deadNode n { inc := r.inc, node := node, frm := n.cfg.self } env := by
  simp [timerFire, hr, hs, hc, lookup_name hr]

/-- In order: nothing (has left already); the flag alone (no own record); the flag, then the self-signed dead claim. -/
theorem leave_cases (n : Node) (env : Env) :
    (n.hasLeft = true ∧ leave n env = (n, [])) ∨
    (lookup n.recs n.cfg.self = none ∧ leave n env = ({ n with hasLeft := true }, [])) ∨
    ∃ me, lookup n.recs n.cfg.self = some me ∧ n.hasLeft = false ∧
      leave n env = deadNode { n with hasLeft := true } { inc := me.inc, node := n.cfg.self, frm := n.cfg.self } env := by
  unfold leave
  cases hl : n.hasLeft
  · cases hme : lookup n.recs n.cfg.self with
    | none => exact .inr (.inl ⟨rfl, by simp [hme]⟩)
    | some me => exact .inr (.inr ⟨me, rfl, rfl, by simp [hme, lookup_name hme]⟩)
  · exact .inl ⟨rfl, rfl⟩

theorem leave_running (n : Node) (env : Env) (me : Rec) (hme : lookup n.recs n.cfg.self = some me)
    (hnl : n.hasLeft = false) :
    leave n env = deadNode { n with hasLeft := true } { inc := me.inc, node := n.cfg.self, frm := n.cfg.self } env := by
  simp [leave, hnl, hme, lookup_name hme]

/-- `ageRec` with the test inside the record: every field but `changed` is the old one by `rfl` -/
theorem ageRec_recs (n : Node) (name : String) :
    (ageRec n name).recs = n.recs.map fun r => { r with changed := if r.name == name then none else r.changed } := by
  refine List.map_congr_left fun r _ => ?_
  split <;> rfl

theorem lookup_ageRec (n : Node) (name y : String) :
    lookup (ageRec n name).recs y =
      (lookup n.recs y).map fun r => { r with changed := if r.name == name then none else r.changed } := by
  rw [ageRec_recs]
  exact lookup_map n.recs (fun r => { r with changed := if r.name == name then none else r.changed }) (fun _ => rfl) y

theorem mem_ageRec {n : Node} {name : String} {y : Rec} (h : y ∈ (ageRec n name).recs) :
    ∃ y0 ∈ n.recs, y = { y0 with changed := if y0.name == name then none else y0.changed } := by
  rw [ageRec_recs] at h
  obtain ⟨y0, hy0, rfl⟩ := List.mem_map.mp h
  exact ⟨y0, hy0, rfl⟩

theorem mergeOne_eq (n : Node) (r : PushState) (now : Nat) :
    mergeOne n r now = match r.st with
      | .alive => aliveNode n r.toAlive false false (r.toEnv now)
      | .left => deadNode n { inc := r.inc, node := r.name, frm := r.name } (r.toEnv now)
      | _ => suspectNode n { inc := r.inc, node := r.name, frm := n.cfg.self } (r.toEnv now) := by
  unfold mergeOne; cases r.st <;> rfl

theorem updateNode_eq (n : Node) (a p m : Nat) (v : List Nat) (nt : Bool) (env : Env) :
    updateNode n a p m v nt env =
      aliveNode { n with selfInc := (n.selfInc + 1) % u32 }
        { inc := (n.selfInc + 1) % u32, node := n.cfg.self, addr := a, port := p, md := m, vsn := v } nt true env := rfl

theorem mergeState_nil (n : Node) (now : Nat) : mergeState n [] now = (n, []) := rfl

theorem mergeState_cons (n : Node) (r : PushState) (rs : List PushState) (now : Nat) :
    mergeState n (r :: rs) now =
      ((mergeState (mergeOne n r now).1 rs now).1, (mergeOne n r now).2 ++ (mergeState (mergeOne n r now).1 rs now).2) :=
  List.foldl_log (fun m r => mergeOne m r now) rs _ _

theorem mergeState_single (n : Node) (r : PushState) (now : Nat) : mergeState n [r] now = mergeOne n r now := by
  simp [mergeState]

theorem mergeOne_inv {P : Node → Prop}
    (alive : ∀ n a nt b env, P n → P (aliveNode n a nt b env).1)
    (suspect : ∀ n s env, P n → P (suspectNode n s env).1)
    (dead : ∀ n d env, P n → P (deadNode n d env).1)
    (n : Node) (r : PushState) (now : Nat) (h : P n) : P (mergeOne n r now).1 := by
  rw [mergeOne_eq]
  split
  · exact alive _ _ _ _ _ h
  · exact dead _ _ _ h
  · exact suspect _ _ _ h

/-- Every operation is made of the three rules, reaping, ageing, and setting `selfInc` / `hasLeft`:
a predicate all of these keep is kept by every step. -/
theorem step_inv {P : Node → Prop}
    (alive : ∀ n a nt b env, P n → P (aliveNode n a nt b env).1)
    (suspect : ∀ n s env, P n → P (suspectNode n s env).1)
    (dead : ∀ n d env, P n → P (deadNode n d env).1)
    (reap : ∀ n, P n → P (reap n)) (age : ∀ n x, P n → P (ageRec n x))
    (selfInc : ∀ n i, P n → P { n with selfInc := i }) (left : ∀ n, P n → P { n with hasLeft := true })
    (n : Node) (op : Op) (h : P n) : P (step n op).1 := by
  cases op with
  | alive a b env => exact alive _ _ _ _ _ h
  | suspect c env => exact suspect _ _ _ h
  | dead c env => exact dead _ _ _ h
  | merge rs now =>
    show P (mergeState n rs now).1
    induction rs generalizing n with
    | nil => exact h
    | cons r rs ih => rw [mergeState_cons]; exact ih _ (mergeOne_inv alive suspect dead n r now h)
  | fire node ca env =>
    show P (timerFire n node ca env).1
    rcases timerFire_cases n node ca env with ⟨_, e⟩ | ⟨_, _, _, _, e⟩ <;> rw [e]
    · exact h
    · exact dead _ _ _ h
  | reap => exact reap n h
  | update a p m v env => exact alive _ _ _ _ _ (selfInc n _ h)
  | leave env =>
    show P (leave n env).1
    rcases leave_cases n env with ⟨_, e⟩ | ⟨_, e⟩ | ⟨_, _, _, e⟩ <;> rw [e]
    · exact h
    · exact left n h
    · exact dead _ _ _ (left n h)
  | age name => exact age n name h

theorem withStub_uniq (n : Node) (a : AliveMsg) (hu : Uniq n) (hl : lookup n.recs a.node = none) : Uniq (withStub n a) := by
  simp only [Uniq, withStub, List.map_append, List.map_cons, List.map_nil]
  exact List.Nodup.concat hu (lookup_none_not_mem _ _ hl)

theorem alive_uniq (n : Node) (a : AliveMsg) (nt b : Bool) (env : Env) (hu : Uniq n) : Uniq (aliveNode n a nt b env).1 := by
  refine aliveNode_elim (R := fun n res => Uniq n → Uniq res.1) a nt b env ?_ (fun _ h => h)
    (fun n _ hl _ hres h => hres (withStub_uniq n a h hl)) n hu
  intro n r hr hu
  -- every outcome changes `recs` by `setRec` at most, which keeps the names
  rcases aliveNode_known n a nt b env r hr with e | ⟨_, _, _, e⟩ | ⟨_, _, _, _, e⟩ | ⟨_, _, _, _, e⟩ | ⟨_, _, _, e⟩
    <;> rw [e] <;> simpa only [Uniq, refute_recs, names_setRec] using hu

theorem suspect_uniq (n : Node) (s : Claim) (env : Env) (hu : Uniq n) : Uniq (suspectNode n s env).1 := by
  rcases suspectNode_cases n s env with e | ⟨r, _, _, ⟨_, _, _, e⟩ | ⟨_, _, ⟨_, e⟩ | ⟨_, e⟩⟩⟩
    <;> rw [e] <;> simpa only [Uniq, refute_recs, names_setRec] using hu

theorem dead_uniq (n : Node) (d : Claim) (env : Env) (hu : Uniq n) : Uniq (deadNode n d env).1 := by
  rcases deadNode_cases n d env with ⟨_, e⟩ | ⟨r, _, _, ⟨_, e⟩ | ⟨_, ⟨_, _, e⟩ | ⟨_, e⟩⟩⟩
    <;> rw [e] <;> simpa only [Uniq, refute_recs, names_setRec] using hu

theorem reap_uniq (n : Node) (hu : Uniq n) : Uniq (reap n) := hu.map_filter _

theorem age_uniq (n : Node) (name : String) (hu : Uniq n) : Uniq (ageRec n name) := by
  rw [Uniq, ageRec_recs]
  exact (names_map n.recs (fun r => { r with changed := if r.name == name then none else r.changed }) fun _ => rfl) ▸ hu

theorem step_uniq (n : Node) (op : Op) (hu : Uniq n) : Uniq (step n op).1 :=
  step_inv (alive := alive_uniq) (suspect := suspect_uniq) (dead := dead_uniq) (reap := reap_uniq) (age := age_uniq)
    (selfInc := fun _ _ h => h) (left := fun _ h => h) n op hu

theorem aliveNode_frame (n : Node) (a : AliveMsg) (nt b : Bool) (env : Env) (y : String) (hy : y ≠ a.node) :
    lookup (aliveNode n a nt b env).1.recs y = lookup n.recs y := by
  refine aliveNode_elim (R := fun n res => lookup res.1.recs y = lookup n.recs y) a nt b env ?_ (fun _ => rfl)
    (fun n _ _ _ h => h.trans (lookup_withStub_ne n hy)) n
  intro n r hr
  -- whatever the outcome, the records are those before, at most with the one named `a.node` rewritten
  rcases aliveNode_known n a nt b env r hr with e | ⟨_, _, _, e⟩ | ⟨_, _, _, _, e⟩ | ⟨_, _, _, _, e⟩ | ⟨_, _, _, e⟩
    <;> rw [e] <;> simp [lookup_name hr, hy]

theorem suspectNode_frame (n : Node) (s : Claim) (env : Env) (y : String) (hy : y ≠ s.node) :
    lookup (suspectNode n s env).1.recs y = lookup n.recs y := by
  rcases suspectNode_cases n s env with e | ⟨r, hr, _, ⟨_, _, _, e⟩ | ⟨_, _, ⟨_, e⟩ | ⟨_, e⟩⟩⟩
    <;> rw [e] <;> simp [lookup_name hr, hy]

theorem deadNode_frame (n : Node) (d : Claim) (env : Env) (y : String) (hy : y ≠ d.node) :
    lookup (deadNode n d env).1.recs y = lookup n.recs y := by
  rcases deadNode_cases n d env with ⟨_, e⟩ | ⟨r, hr, _, ⟨_, e⟩ | ⟨_, ⟨_, _, e⟩ | ⟨_, e⟩⟩⟩
    <;> rw [e] <;> simp [lookup_name hr, hy]

theorem mergeOne_frame (n : Node) (r : PushState) (now : Nat) (y : String) (hy : y ≠ r.name) :
    lookup (mergeOne n r now).1.recs y = lookup n.recs y := by
  rw [mergeOne_eq]
  split
  · exact aliveNode_frame n _ false false _ y hy
  · exact deadNode_frame n _ _ y hy
  · exact suspectNode_frame n _ _ y hy

theorem aliveNode_other_noop (n : Node) (a : AliveMsg) (nt b : Bool) (env : Env) (r : Rec)
    (hself : a.node ≠ n.cfg.self) (hr : lookup n.recs a.node = some r) (hno : ¬ takeover n a env)
    (h : a.inc ≤ r.inc ∨ r.addr ≠ a.addr ∨ r.port ≠ a.port) :
    (aliveNode n a nt b env).1 = n ∧
      ∀ o ∈ (aliveNode n a nt b env).2, ∃ nm ad p, o = Out.conflict nm ad p := by
  rcases aliveNode_known_other n a nt b env r hself hr with h | ⟨hnew, hadm, _⟩
  · exact h
  · rcases h with h | h | h
    · exact absurd (hnew.resolve_right hno) (Nat.not_lt.mpr h)
    · exact absurd (hadm.resolve_right hno).1 h
    · exact absurd (hadm.resolve_right hno).2 h

theorem aliveNode_stale_same_address (n : Node) (a : AliveMsg) (nt b : Bool) (env : Env) (r : Rec)
    (hself : a.node ≠ n.cfg.self) (hr : lookup n.recs a.node = some r)
    (haddr : r.addr = a.addr ∧ r.port = a.port) (hold : a.inc ≤ r.inc) : (aliveNode n a nt b env).1 = n := by
  refine (aliveNode_other_noop n a nt b env r hself hr ?_ (.inl hold)).1
  rintro ⟨r', hr', hdiff, _⟩
  cases hr.symm.trans hr'
  exact hdiff.elim (fun h => h haddr.1) (fun h => h haddr.2)

theorem aliveApply_cfg (n : Node) (a : AliveMsg) (nt : Bool) (env : Env) (dec : AliveDec) :
    (aliveApply n a nt env dec).1.cfg = n.cfg ∧ (aliveApply n a nt env dec).1.hasLeft = n.hasLeft := by
  cases dec with
  | ignore => exact ⟨rfl, rfl⟩
  | conflict => exact ⟨rfl, rfl⟩
  | stubOnly => exact ⟨rfl, rfl⟩
  | delTimerOnly isNew => cases isNew <;> exact ⟨rfl, rfl⟩
  | refuteSelf isNew => cases isNew <;> exact ⟨rfl, rfl⟩
  | accept isNew => cases isNew <;> exact ⟨rfl, rfl⟩

theorem alive_cfg (n : Node) (a : AliveMsg) (nt b : Bool) (env : Env) : (aliveNode n a nt b env).1.cfg = n.cfg :=
  (aliveApply_cfg n a nt env (aliveDecide n a b env)).1

theorem suspect_cfg (n : Node) (s : Claim) (env : Env) : (suspectNode n s env).1.cfg = n.cfg := by
  rcases suspectNode_cases n s env with e | ⟨r, _, _, ⟨_, _, _, e⟩ | ⟨_, _, ⟨_, e⟩ | ⟨_, e⟩⟩⟩ <;> rw [e] <;> rfl

theorem dead_cfg (n : Node) (d : Claim) (env : Env) : (deadNode n d env).1.cfg = n.cfg := by
  rcases deadNode_cases n d env with ⟨_, e⟩ | ⟨r, _, _, ⟨_, e⟩ | ⟨_, ⟨_, _, e⟩ | ⟨_, e⟩⟩⟩ <;> rw [e] <;> rfl

theorem alive_hasLeft (n : Node) (a : AliveMsg) (nt b : Bool) (env : Env) :
    (aliveNode n a nt b env).1.hasLeft = n.hasLeft :=
  (aliveApply_cfg n a nt env (aliveDecide n a b env)).2

theorem suspect_hasLeft (n : Node) (s : Claim) (env : Env) : (suspectNode n s env).1.hasLeft = n.hasLeft := by
  rcases suspectNode_cases n s env with e | ⟨r, _, _, ⟨_, _, _, e⟩ | ⟨_, _, ⟨_, e⟩ | ⟨_, e⟩⟩⟩ <;> rw [e] <;> rfl

theorem dead_hasLeft (n : Node) (d : Claim) (env : Env) : (deadNode n d env).1.hasLeft = n.hasLeft := by
  rcases deadNode_cases n d env with ⟨_, e⟩ | ⟨r, _, _, ⟨_, e⟩ | ⟨_, ⟨_, _, e⟩ | ⟨_, e⟩⟩⟩ <;> rw [e] <;> rfl

theorem leave_hasLeft (n : Node) (env : Env) : (leave n env).1.hasLeft = true := by
  rcases leave_cases n env with ⟨h, e⟩ | ⟨_, e⟩ | ⟨_, _, _, e⟩
  · rw [e]
    exact h
  · rw [e]
  · rw [e]
    exact dead_hasLeft ..

theorem step_cfg (n : Node) (op : Op) : (step n op).1.cfg = n.cfg :=
  step_inv (P := fun m => m.cfg = n.cfg) (alive := fun _ _ _ _ _ h => (alive_cfg ..).trans h)
    (suspect := fun _ _ _ h => (suspect_cfg ..).trans h) (dead := fun _ _ _ h => (dead_cfg ..).trans h)
    (reap := fun _ h => h) (age := fun _ _ h => h) (selfInc := fun _ _ h => h) (left := fun _ h => h) n op rfl

theorem mergeOne_cfg (n : Node) (r : PushState) (now : Nat) : (mergeOne n r now).1.cfg = n.cfg := by
  rw [← mergeState_single]; exact step_cfg n (.merge [r] now)

end Swim.Merge
