/-! List facts that core Lean lacks and several property files need. -/

theorem List.eq_of_nodup_map {α β : Type} {f : α → β} {l : List α} (h : (l.map f).Nodup) {x y : α}
    (hx : x ∈ l) (hy : y ∈ l) (e : f x = f y) : x = y := by
  induction l with
  | nil => cases hx
  | cons a l ih =>
    obtain ⟨ha, hl⟩ := List.nodup_cons.mp h
    rcases List.mem_cons.mp hx with rfl | hx' <;> rcases List.mem_cons.mp hy with rfl | hy'
    · rfl
    · exact absurd (e ▸ List.mem_map_of_mem hy') ha
    · exact absurd (e ▸ List.mem_map_of_mem hx') ha
    · exact ih hl hx' hy'

theorem List.find?_map_of_key_eq {α β : Type} [BEq β] {key : α → β} {f : α → α} (hf : ∀ a, key (f a) = key a)
    (l : List α) (y : β) : (l.map f).find? (key · == y) = (l.find? (key · == y)).map f := by
  rw [List.find?_map, show ((key · == y) ∘ f) = (key · == y) from funext fun a => congrArg (· == y) (hf a)]

theorem List.Nodup.concat {α : Type} {l : List α} {a : α} (h : l.Nodup) (ha : a ∉ l) : (l ++ [a]).Nodup :=
  List.nodup_append.mpr ⟨h, List.pairwise_singleton _ a, fun _ hx _ hb e => ha (List.mem_singleton.mp hb ▸ e ▸ hx)⟩

theorem List.Nodup.map_filter {α β : Type} {f : α → β} {l : List α} (h : (l.map f).Nodup) (p : α → Bool) :
    ((l.filter p).map f).Nodup :=
  (List.filter_sublist.map f).nodup h

theorem List.foldl_of_mem {σ α} {f : σ → α → σ} {P : σ → Prop} {x : α} (hx : ∀ s, P (f s x))
    (hstep : ∀ s y, P s → P (f s y)) : ∀ (l : List α) (s : σ), x ∈ l → P (l.foldl f s)
  | y :: l, s, h => by
    rcases List.mem_cons.mp h with rfl | h
    · exact List.foldlRecOn l f (hx s) fun s hs y _ => hstep s y hs
    · exact List.foldl_of_mem hx hstep l (f s y) h

/-- a fold that appends each step's effects to a log: what was logged before the fold stays in front -/
theorem List.foldl_log {σ α β : Type} (f : σ → α → σ × List β) (l : List α) : ∀ (s : σ) (o : List β),
    l.foldl (fun acc a => ((f acc.1 a).1, acc.2 ++ (f acc.1 a).2)) (s, o) =
      ((l.foldl (fun acc a => ((f acc.1 a).1, acc.2 ++ (f acc.1 a).2)) (s, [])).1,
        o ++ (l.foldl (fun acc a => ((f acc.1 a).1, acc.2 ++ (f acc.1 a).2)) (s, [])).2) := by
  induction l with
  | nil => intro s o; simp
  | cons a l ih => intro s o; simp only [List.foldl_cons]; rw [ih, ih _ ([] ++ _)]; simp
