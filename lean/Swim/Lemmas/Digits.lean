/-!
Small facts the byte-level models rest on. Base-256 positional notation, one digit at a time, for the
big-endian readers and writers (`Swim.Msgpack.rd16/32/64`, `Swim.Codec.rd16`); padding to a block size
for PKCS7 and `encryptedLength`; `ite_ind`, core's `iteInduction` for a property that holds of both branches
whatever the condition (`elab_as_elim`, so that nested calls find their motive, which `iteInduction` does not).
-/
namespace Swim

@[elab_as_elim]
theorem ite_ind {α : Type} {motive : α → Prop} {c : Prop} [Decidable c] {x y : α} (hx : motive x) (hy : motive y) :
    motive (if c then x else y) :=
  iteInduction (fun _ => hx) (fun _ => hy)

theorem digit_step {n d e : Nat} (h : e = d * 256) : n / e * 256 + n / d % 256 = n / d := by
  rw [h, ← Nat.div_div_eq_div_mul, Nat.div_add_mod']

theorem top_digit {n d : Nat} (h : n < d * 256) : n / d % 256 = n / d :=
  Nat.mod_eq_of_lt (Nat.div_lt_of_lt_mul h)

theorem add_pad (n bs : Nat) (h : 0 < bs) : n + (bs - n % bs) = bs * (n / bs + 1) :=
  calc n + (bs - n % bs) = bs * (n / bs) + (n % bs + (bs - n % bs)) := by rw [← Nat.add_assoc, Nat.div_add_mod]
    _ = bs * (n / bs + 1) := by rw [Nat.add_sub_cancel' (Nat.le_of_lt (Nat.mod_lt n h)), Nat.mul_succ]

theorem add_pad_mono {a b bs : Nat} (h0 : 0 < bs) (h : a ≤ b) : a + (bs - a % bs) ≤ b + (bs - b % bs) := by
  rw [add_pad a bs h0, add_pad b bs h0]
  exact Nat.mul_le_mul_left _ (Nat.succ_le_succ (Nat.div_le_div_right h))

end Swim
