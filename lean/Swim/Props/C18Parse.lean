/-!
# C18: the allow-list parser (`ParseCIDRs`)

An empty allow-list means "allow everybody", so what the parser returns for a list with malformed entries
matters: it returns the well-formed networks, in order, and reports an error iff something was malformed.
The model takes the per-entry verdict of `net.ParseCIDR` as given (`none` = malformed); the `C18 parse`
lines compare it with the real function entry by entry.
-/
namespace Swim.C18Parse

/-- `ParseCIDRs` over per-entry results -/
def parse {Net : Type} (entries : List (Option Net)) : List Net × Bool :=
  (entries.filterMap id, entries.any Option.isNone)

/-- what is returned are the well-formed entries and nothing else (in the entries' order: `parse` is a `filterMap`) -/
theorem parse_keeps_wellformed {Net : Type} (entries : List (Option Net)) (n : Net) :
    n ∈ (parse entries).1 ↔ some n ∈ entries := by
  simp [parse, List.mem_filterMap]

/-- No silent allow-all: the parser returns the empty list (which the rest of the library reads as
"no allow-list configured") only if not a single entry was well-formed. -/
theorem C18_parse_empty_only_if_nothing_wellformed {Net : Type} (entries : List (Option Net)) :
    (parse entries).1 = [] ↔ ∀ e ∈ entries, e = none := by
  simp [parse, List.filterMap_eq_nil_iff]

theorem parse_error_iff {Net : Type} (entries : List (Option Net)) :
    (parse entries).2 = true ↔ ∃ e ∈ entries, e = none := by
  simp [parse, List.any_eq_true]

example : parse [some 1, (none : Option Nat), some 3] = ([1, 3], true) := rfl

end Swim.C18Parse
