import Swim.Model.Select
/-!
# Member selection: `moveDeadNodes`, `resetNodes`, `kRandomNodes` (util.go, state.go) and the callers' exclusion rules

For every list, every position of every record, every clock reading and every sequence of random choices.
`moveDead` and `resetKeep` carry the "a live peer is never dropped" part of C03 and `C20_reset_keeps_own`; `kRandom`
the relay selection of C19 and the "at least one live peer is chosen when one exists" part of C08 (short lists). Whom
each caller excludes is `C08_gossip_rule`, `C19_relay_rule`, `C09_pushpull_rule`; `withGossipRule` marks a member list
by the first of them, for `C08_leave_departure_reaches_someone`.
-/

theorem List.filter_append_of_split {α : Type} {p : α → Bool} {l₁ l₂ : List α}
    (h₁ : ∀ s ∈ l₁, p s = false) (h₂ : ∀ s ∈ l₂, p s = true) :
    (l₁ ++ l₂).filter (fun s => !p s) = l₁ ∧ (l₁ ++ l₂).filter p = l₂ := by
  constructor
  · rw [List.filter_append, List.filter_eq_self.mpr (fun s hs => by rw [h₁ s hs]; rfl),
      List.filter_eq_nil_iff.mpr (fun s hs => by simp [h₂ s hs]), List.append_nil]
  · rw [List.filter_append, List.filter_eq_nil_iff.mpr (fun s hs => by simp [h₁ s hs]),
      List.filter_eq_self.mpr h₂, List.nil_append]

namespace Swim.Select

/-- the loop from any state in which everything before `i` stays and everything in the last `d` places goes -/
theorem moveDeadLoop_spec (xs : Array SNode) (i d : Nat)
    (hf : ∀ j (hj : j < xs.size), j < i → (xs[j]).reap = false)
    (hb : ∀ j (hj : j < xs.size), xs.size - d ≤ j → (xs[j]).reap = true) :
    let r := moveDeadLoop xs i d
    r.1.Perm xs ∧ r.2 ≤ xs.size ∧
    (∀ j (hj : j < r.1.size), j < r.2 → (r.1[j]).reap = false) ∧
    (∀ j (hj : j < r.1.size), r.2 ≤ j → (r.1[j]).reap = true) := by
  fun_induction moveDeadLoop xs i d with
  | case1 xs i d h hr ih =>
    -- entry `i` goes to place `xs.size - d - 1`, the last one not yet known to go; every place before `i` and
    -- every place behind that one keeps its entry (`omega` on these truncated subtractions is five times as dear)
    have hik : i ≤ xs.size - d - 1 := Nat.le_sub_one_of_lt h
    have := ih
      (fun j hj hji => by
        rw [Array.getElem_swap_of_ne (Nat.ne_of_lt hji) (Nat.ne_of_lt (Nat.lt_of_lt_of_le hji hik))]
        exact hf j _ hji)
      (fun j hj hjd => by
        rw [Array.size_swap, Nat.sub_add_eq] at hjd
        rcases Nat.eq_or_lt_of_le hjd with rfl | hlt
        · rw [Array.getElem_swap_right]; exact hr
        · rw [Array.getElem_swap_of_ne (Nat.ne_of_gt (Nat.lt_of_le_of_lt hik hlt)) (Nat.ne_of_gt hlt)]
          exact hb j _ (Nat.le_of_pred_lt hlt))
    exact ⟨this.1.trans (Array.swap_perm _ _), by simpa using this.2.1, this.2.2⟩
  | case2 xs i d h hr ih =>
    refine ih (fun j hj hji => ?_) hb
    rcases Nat.lt_succ_iff_lt_or_eq.mp hji with hji | rfl
    · exact hf j hj hji
    · simpa using hr
  | case3 xs i d h =>
    exact ⟨.refl _, Nat.sub_le _ _, fun j hj hjr => hf j hj (Nat.lt_of_lt_of_le hjr (Nat.le_of_not_lt h)), hb⟩

theorem moveDead_spec (xs : Array SNode) :
    (moveDead xs).1.Perm xs ∧ (moveDead xs).2 ≤ xs.size ∧
    (∀ j (hj : j < (moveDead xs).1.size), j < (moveDead xs).2 → ((moveDead xs).1[j]).reap = false) ∧
    (∀ j (hj : j < (moveDead xs).1.size), (moveDead xs).2 ≤ j → ((moveDead xs).1[j]).reap = true) :=
  moveDeadLoop_spec xs 0 0 (fun j _ h => absurd h (Nat.not_lt_zero j))
    (fun _ hj h => absurd hj (Nat.not_lt_of_le h))

/-- `moveDeadNodes` only rearranges: every record is still there, once. -/
theorem C03_moveDead_perm (xs : Array SNode) : (moveDead xs).1.Perm xs := (moveDead_spec xs).1

/-- The index `moveDeadNodes` returns splits the rearranged list exactly: no record in front of it is
(departed and old), every record from it on is. (`resetNodes` deletes the second part from the member map
and truncates the list to the first.) -/
theorem C03_moveDead_split (xs : Array SNode) :
    (moveDead xs).2 ≤ xs.size ∧
    (∀ j (hj : j < (moveDead xs).1.size), j < (moveDead xs).2 → ((moveDead xs).1[j]).reap = false) ∧
    (∀ j (hj : j < (moveDead xs).1.size), (moveDead xs).2 ≤ j → ((moveDead xs).1[j]).reap = true) :=
  (moveDead_spec xs).2

theorem moveDead_parts (xs : Array SNode) :
    ((moveDead xs).1.toList.take (moveDead xs).2).Perm (xs.toList.filter (fun s => !s.reap)) ∧
    ((moveDead xs).1.toList.drop (moveDead xs).2).Perm (xs.toList.filter (·.reap)) := by
  obtain ⟨hp, _, hf, hb⟩ := moveDead_spec xs
  have hp := Array.perm_iff_toList_perm.mp hp
  have h := List.filter_append_of_split (p := SNode.reap)
    (l₁ := (moveDead xs).1.toList.take (moveDead xs).2) (l₂ := (moveDead xs).1.toList.drop (moveDead xs).2)
    (fun s hs => by
      obtain ⟨j, hj, rfl⟩ := List.mem_take_iff_getElem.mp hs
      exact hf j (Nat.lt_of_lt_of_le hj (Nat.min_le_right ..)) (Nat.lt_of_lt_of_le hj (Nat.min_le_left ..)))
    (fun s hs => by
      obtain ⟨j, hj, rfl⟩ := List.mem_drop_iff_getElem.mp hs
      exact hb _ (Nat.add_comm .. ▸ hj) (Nat.le_add_right ..))
  rw [List.take_append_drop] at h
  rw [← h.1, ← h.2]
  exact ⟨hp.filter _, hp.filter _⟩

/-- What `resetNodes` keeps - the first `deadIdx` entries after `moveDeadNodes` - is a permutation of the input
without the departed-and-old records: a filter, up to order. (`Probe.reset` of the probe-cursor model is such a
filter followed by a reordering taken as given; that the two models agree there is not a theorem.) -/
theorem C03_moveDead_refines_filter (xs : Array SNode) :
    ((moveDead xs).1.toList.take (moveDead xs).2).Perm (xs.toList.filter (fun s => !s.reap)) :=
  (moveDead_parts xs).1

/-- the returned index is the number of records that stay -/
theorem C03_moveDead_count (xs : Array SNode) :
    (moveDead xs).2 = (xs.toList.filter (fun s => !s.reap)).length := by
  rw [← (C03_moveDead_refines_filter xs).length_eq, List.length_take_of_le]
  exact Nat.le_trans (C03_moveDead_split xs).1 (Nat.le_of_eq (C03_moveDead_perm xs).size_eq.symm)

/-- a member that is alive or suspect is never reaped, whatever the clock says -/
theorem C03_live_never_reaped (n : SNode) (h : n.state = 0 ∨ n.state = 1) : n.reap = false := by
  rcases h with h | h <;> simp [SNode.reap, SNode.gone, h]

/-- non-vacuity: a five-entry list with two old departed records in front -/
example : (moveDead #[⟨"a", 2, true, false⟩, ⟨"b", 3, true, false⟩, ⟨"c", 0, true, false⟩,
    ⟨"d", 2, false, false⟩, ⟨"e", 1, false, false⟩]).2 = 3 := by
  simp [moveDead, moveDeadLoop, SNode.reap, SNode.gone]

theorem mem_take_moveDead {xs : Array SNode} {s : SNode} :
    s ∈ (moveDead xs).1.toList.take (moveDead xs).2 ↔ s ∈ xs ∧ s.reap = false := by
  simpa using (moveDead_parts xs).1.mem_iff (a := s)

theorem mem_drop_moveDead {xs : Array SNode} {s : SNode} :
    s ∈ (moveDead xs).1.toList.drop (moveDead xs).2 ↔ s ∈ xs ∧ s.reap = true := by
  simpa using (moveDead_parts xs).2.mem_iff (a := s)

theorem mem_resetKeep {self : String} {xs : Array SNode} {s : SNode} :
    s ∈ resetKeep self xs ↔ (s ∈ xs ∧ s.reap = false) ∨
      ((moveDead xs).1.toList.drop (moveDead xs).2).find? (fun n => n.name == self) = some s := by
  rw [← mem_take_moveDead]
  unfold resetKeep
  simp only
  -- `resetKeep` is the kept part, with `s` appended if the `find?` returns `some s`
  split <;> simp [*, eq_comm]

/-- `resetNodes` never drops a member that is alive, suspect or only recently departed. -/
theorem C03_reset_keeps_live (self : String) (xs : Array SNode) (s : SNode) (hs : s ∈ xs) (hl : s.reap = false) :
    s ∈ resetKeep self xs :=
  mem_resetKeep.mpr (.inl ⟨hs, hl⟩)

/-- The node's own record survives every reaping pass - also when it is marked as left and older than the
gossip-to-the-dead window (`LocalNode`, `UpdateNode` and `Leave` look it up). -/
theorem C20_reset_keeps_own (self : String) (xs : Array SNode) (s : SNode) (hs : s ∈ xs) (hn : s.name = self) :
    ∃ s' ∈ resetKeep self xs, s'.name = self := by
  cases hl : s.reap with
  | false => exact ⟨s, C03_reset_keeps_live self xs s hs hl, hn⟩
  | true =>
    cases hf : ((moveDead xs).1.toList.drop (moveDead xs).2).find? (fun n => n.name == self) with
    | none => simpa [hn] using List.find?_eq_none.mp hf s (mem_drop_moveDead.mpr ⟨hs, hl⟩)
    | some s' => exact ⟨s', mem_resetKeep.mpr (.inr hf), by simpa using List.find?_some hf⟩

/-- everything `resetNodes` keeps was there before, and is either not (departed and old) or the node's own record:
long-departed members are forgotten -/
theorem C03_reset_sound (self : String) (xs : Array SNode) (s : SNode) (h : s ∈ resetKeep self xs) :
    s ∈ xs ∧ (s.reap = false ∨ s.name = self) := by
  rcases mem_resetKeep.mp h with h | h
  · exact ⟨h.1, .inl h.2⟩
  · exact ⟨(mem_drop_moveDead.mp (List.mem_of_find?_eq_some h)).1, .inr (by simpa using List.find?_some h)⟩

example : (resetKeep "me" #[⟨"a", 2, true, false⟩, ⟨"me", 3, true, false⟩, ⟨"c", 0, true, false⟩]).map (·.name) = ["c", "me"] := by
  simp [resetKeep, moveDead, moveDeadLoop, SNode.reap, SNode.gone]

/-- what holds of the list of chosen members at every moment of the second loop -/
structure Chosen (k : Nat) (nodes : Array SNode) (acc : List SNode) : Prop where
  len : acc.length ≤ k
  mem : ∀ s ∈ acc, s ∈ nodes ∧ s.excl = false
  distinct : acc.Pairwise (fun a b => a.name ≠ b.name)

theorem pickLoop_chosen (k : Nat) (nodes : Array SNode) (os : List Nat) (acc : List SNode)
    (h : Chosen k nodes acc) : Chosen k nodes (pickLoop k nodes os acc) := by
  fun_induction pickLoop k nodes os acc with
  | case1 | case2 | case3 => exact h
  | case4 | case5 => rename_i ih; exact ih h
  | case6 o os acc hk s hn he hd ih =>
    refine ih ⟨by simp; omega, ?_, ?_⟩
    · intro x hx
      rcases List.mem_append.mp hx with hx | hx
      · exact h.mem x hx
      · cases List.mem_singleton.mp hx
        exact ⟨Array.mem_of_getElem? hn, by simpa using he⟩
    · refine List.pairwise_append.mpr ⟨h.distinct, by simp, fun a ha b hb hab => hd ?_⟩
      cases List.mem_singleton.mp hb
      exact List.any_eq_true.mpr ⟨a, ha, by simp [hab]⟩

theorem kRandom_long_chosen (k : Nat) (nodes : Array SNode) (os : List Nat) :
    Chosen k nodes (pickLoop k nodes os []) :=
  pickLoop_chosen k nodes os [] ⟨by simp, by simp, by simp⟩

/-- the first loop (short lists): the first `k` admissible entries of the shuffled copy -/
theorem kRandom_small (k : Nat) (nodes : Array SNode) (shuffled : List SNode) (offs : List Nat)
    (h : nodes.size < k * 3) :
    kRandom k nodes shuffled offs = (shuffled.filter (fun s => !s.excl)).take k := if_pos h

/-- the second loop (long lists): at most `3 * n` draws -/
theorem kRandom_long (k : Nat) (nodes : Array SNode) (shuffled : List SNode) (offs : List Nat)
    (h : ¬ nodes.size < k * 3) :
    kRandom k nodes shuffled offs = pickLoop k nodes (offs.take (3 * nodes.size)) [] := if_neg h

/-- Whatever the shuffle and the random draws, at most `k` members are chosen, each a record of the list that the
caller's rule admits (so never the node itself, never the probe's target, never a member the rule calls departed). -/
theorem C19_kRandom_sound (k : Nat) (nodes : Array SNode) (shuffled : List SNode) (offs : List Nat)
    (hperm : shuffled.Perm nodes.toList) :
    (kRandom k nodes shuffled offs).length ≤ k ∧
    ∀ s ∈ kRandom k nodes shuffled offs, s ∈ nodes ∧ s.excl = false := by
  by_cases h : nodes.size < k * 3
  · rw [kRandom_small _ _ _ _ h]
    refine ⟨List.length_take_le _ _, fun s hs => ?_⟩
    have := List.mem_filter.mp (List.mem_of_mem_take hs)
    exact ⟨Array.mem_toList_iff.mp (hperm.mem_iff.mp this.1), by simpa using this.2⟩
  · rw [kRandom_long _ _ _ _ h]
    exact ⟨(kRandom_long_chosen k nodes _).len, (kRandom_long_chosen k nodes _).mem⟩

/-- no member is chosen twice: in the random-draw loop by the explicit name test, in the short-list walk
because the walk visits each record of the shuffled copy once (names are unique in the member list) -/
theorem C19_kRandom_distinct (k : Nat) (nodes : Array SNode) (shuffled : List SNode) (offs : List Nat)
    (hperm : shuffled.Perm nodes.toList)
    (huniq : nodes.toList.Pairwise (fun a b => a.name ≠ b.name)) :
    (kRandom k nodes shuffled offs).Pairwise (fun a b => a.name ≠ b.name) := by
  by_cases h : nodes.size < k * 3
  · rw [kRandom_small _ _ _ _ h]
    have hs : shuffled.Pairwise (fun a b => a.name ≠ b.name) := hperm.symm.pairwise huniq (fun h => Ne.symm h)
    exact (hs.filter _).sublist (List.take_sublist _ _)
  · rw [kRandom_long _ _ _ _ h]
    exact (kRandom_long_chosen k nodes _).distinct

/-- When the list has fewer than `3k` records the walk is exhaustive: exactly `min k (number of admissible records)`
members are chosen - so if any admissible peer exists at least one is chosen (for `k > 0`), whatever the shuffle. -/
theorem C08_kRandom_exhaustive (k : Nat) (nodes : Array SNode) (shuffled : List SNode) (offs : List Nat)
    (hperm : shuffled.Perm nodes.toList) (h : nodes.size < k * 3) :
    (kRandom k nodes shuffled offs).length = min k (nodes.toList.filter (fun s => !s.excl)).length := by
  rw [kRandom_small k nodes shuffled offs h, List.length_take, (hperm.filter _).length_eq]

theorem C08_kRandom_nonempty (k : Nat) (nodes : Array SNode) (shuffled : List SNode) (offs : List Nat)
    (hperm : shuffled.Perm nodes.toList) (h : nodes.size < k * 3) (hk : 0 < k)
    (s : SNode) (hs : s ∈ nodes) (hadm : s.excl = false) :
    kRandom k nodes shuffled offs ≠ [] := by
  apply List.ne_nil_of_length_pos
  rw [C08_kRandom_exhaustive k nodes shuffled offs hperm h]
  exact Nat.lt_min.mpr ⟨hk, List.length_pos_of_mem (List.mem_filter.mpr ⟨Array.mem_toList_iff.mpr hs, by simp [hadm]⟩)⟩

/-- the long-list loop may come back with fewer than `k` members although more are admissible (the
draws may repeat): a concrete witness, which is why `C08_kRandom_exhaustive` needs `n < 3k` -/
theorem kRandom_long_may_miss :
    kRandom 1 #[⟨"a", 0, false, true⟩, ⟨"b", 0, false, true⟩, ⟨"c", 0, false, false⟩] [] [0, 1, 0, 1, 0, 1, 0, 1, 0] = [] := by
  decide

/-- `gossip()` never picks the node itself, never a member that left, a dead member only
inside the gossip-to-the-dead window, and always admits alive and suspect peers. -/
theorem C08_gossip_rule (isSelf : Bool) (state : Nat) (old : Bool) :
    (gossipExcl isSelf state old = false ↔
      isSelf = false ∧ (state = 0 ∨ state = 1 ∨ (state = 2 ∧ old = false))) := by
  -- an if-chain on `isSelf` and the state code
  unfold gossipExcl; grind

/-- relays for an indirect ping are alive members other than the prober and the target -/
theorem C19_relay_rule (isSelf isTarget : Bool) (state : Nat) :
    (relayExcl isSelf isTarget state = false ↔ isSelf = false ∧ isTarget = false ∧ state = 0) := by
  unfold relayExcl; cases isSelf <;> cases isTarget <;> simp

/-- the push/pull partner is an alive member other than the node itself -/
theorem C09_pushpull_rule (isSelf : Bool) (state : Nat) :
    (pushPullExcl isSelf state = false ↔ isSelf = false ∧ state = 0) := by
  unfold pushPullExcl; cases isSelf <;> simp

/-- the member list as `gossip()` sees it: every record marked with the verdict of gossip's exclusion rule -/
def withGossipRule (self : String) (nodes : Array SNode) : Array SNode :=
  nodes.map fun n => { n with excl := gossipExcl (n.name == self) n.state n.old }

theorem withGossipRule_admits {self : String} {nodes : Array SNode} {s : SNode} (hs : s ∈ withGossipRule self nodes) :
    s.excl = false ↔ s.name ≠ self ∧ (s.state = 0 ∨ s.state = 1 ∨ (s.state = 2 ∧ s.old = false)) := by
  obtain ⟨m, _, rfl⟩ := Array.mem_map.mp hs
  simpa using C08_gossip_rule (m.name == self) m.state m.old

/-- Whenever `anyAlive()` holds - which is exactly when `Leave` waits for its departure to be gossiped - the next gossip
round of a node with fewer than `3 * GossipNodes` records addresses at least one member, and every member it addresses
is an alive or suspect peer or a recently dead one: never the node itself, never a member that left. (`hwf`: records
carry one of the four state codes - `mergeState` and the message handlers store nothing else.) -/
theorem C08_leave_departure_reaches_someone (self : String) (k : Nat) (nodes : Array SNode)
    (shuffled : List SNode) (offs : List Nat)
    (hperm : shuffled.Perm (withGossipRule self nodes).toList)
    (hwf : ∀ n ∈ nodes, n.state ≤ 3)
    (hany : anyAlive self nodes.toList = true) (hk : 0 < k) (hsmall : nodes.size < k * 3) :
    kRandom k (withGossipRule self nodes) shuffled offs ≠ [] ∧
    ∀ s ∈ kRandom k (withGossipRule self nodes) shuffled offs,
      s.name ≠ self ∧ (s.state = 0 ∨ s.state = 1 ∨ (s.state = 2 ∧ s.old = false)) := by
  obtain ⟨n, hn, hp⟩ := List.any_eq_true.mp hany
  have hn := Array.mem_toList_iff.mp hn
  -- the marked copy of that peer is in the list `gossip()` sees, and admitted
  have hn' : { n with excl := gossipExcl (n.name == self) n.state n.old } ∈ withGossipRule self nodes :=
    Array.mem_map.mpr ⟨n, hn, rfl⟩
  have hadm : n.name ≠ self ∧ (n.state = 0 ∨ n.state = 1 ∨ (n.state = 2 ∧ n.old = false)) := by
    have := hwf n hn
    simp only [SNode.gone, Bool.and_eq_true, Bool.not_eq_true', Bool.or_eq_false_iff, beq_eq_false_iff_ne,
      bne_iff_ne] at hp
    exact ⟨hp.2, (Nat.le_one_iff_eq_zero_or_eq_one.mp (by omega)).imp_right .inl⟩
  refine ⟨C08_kRandom_nonempty k _ shuffled offs hperm (by simpa [withGossipRule] using hsmall) hk _ hn'
    ((withGossipRule_admits hn').mpr hadm), fun s hs => ?_⟩
  obtain ⟨hmem, hex⟩ := (C19_kRandom_sound k _ shuffled offs hperm).2 s hs
  exact (withGossipRule_admits hmem).mp hex

/-- the hypotheses of `C08_leave_departure_reaches_someone` are satisfiable: a node and one alive peer -/
example : kRandom 3 (withGossipRule "S" #[⟨"S", 0, false, false⟩, ⟨"p", 0, false, false⟩])
    (withGossipRule "S" #[⟨"S", 0, false, false⟩, ⟨"p", 0, false, false⟩]).toList [] ≠ [] :=
  (C08_leave_departure_reaches_someone "S" 3 #[⟨"S", 0, false, false⟩, ⟨"p", 0, false, false⟩] _ []
    (List.Perm.refl _)
    (by intro n hn; simp at hn; rcases hn with rfl | rfl <;> decide)
    (by decide) (by decide) (by decide)).1

example : kRandom 2 #[⟨"a", 0, false, true⟩, ⟨"b", 0, false, false⟩, ⟨"c", 1, false, false⟩]
    [⟨"c", 1, false, false⟩, ⟨"a", 0, false, true⟩, ⟨"b", 0, false, false⟩] [] =
    [⟨"c", 1, false, false⟩, ⟨"b", 0, false, false⟩] := by decide

end Swim.Select
