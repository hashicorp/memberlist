import Swim.Model.Cluster
import Swim.Lemmas.Rules
/-!
# Cluster model: basic lemmas
`stepEmit` against `step`; what `act`, `nodeAt` and `World.step` do (`World.step_ind`: the case analysis over a
cluster step that the two invariant proofs share; `step_projection` in `Projection.lean` and `nodeOp_facts` in
`C08Final.lean` follow the cases of `nodeOp` instead); what a node's cluster-level actions return (`probeFail_cases`,
`receive_state`, `alive_other_sum`, `alive_self_sum`, `announce_cases`); the notions every cluster invariant is phrased in
(a claim owned by its subject, a member that has departed), which all speak of "the node called `x`" (`named_iff`), and
their monotonicity along steps (`Ext`).
-/
namespace Swim.Cluster
open Swim.Merge

theorem mem_delTimer' {ts : List Timer} {name : String} {t : Timer} (h : t ∈ delTimer ts name) : t ∈ ts :=
  (delTimer_sub h).1

theorem emitOuts_fst (n' : Node) (src : Option AliveMsg) (outs : List Out) :
    (emitOuts n' src outs).map (·.1) = outs := by
  simp [emitOuts, Function.comp_def]

theorem mergeEmit_cons (n : Node) (r : PushState) (rs : List PushState) (now : Nat) :
    mergeEmit n (r :: rs) now =
      ((mergeEmit (mergeOne n r now).1 rs now).1,
       emitOuts (mergeOne n r now).1 (if r.st = .alive then some (aliveOfState r) else none) (mergeOne n r now).2 ++
         (mergeEmit (mergeOne n r now).1 rs now).2) :=
  List.foldl_log (fun m r => ((mergeOne m r now).1,
    emitOuts (mergeOne m r now).1 (if r.st = .alive then some (aliveOfState r) else none) (mergeOne m r now).2)) rs _ _

theorem mergeEmit_node (n : Node) (rs : List PushState) (now : Nat) :
    (mergeEmit n rs now).1 = (mergeState n rs now).1 ∧ (mergeEmit n rs now).2.map (·.1) = (mergeState n rs now).2 := by
  induction rs generalizing n with
  | nil => exact ⟨rfl, rfl⟩
  | cons r rs ih =>
    rw [mergeEmit_cons, mergeState_cons]
    exact ⟨(ih _).1, by rw [List.map_append, emitOuts_fst, (ih _).2]⟩

/-- `stepEmit`, which the driver replays, is `step` with the claims attached -/
theorem stepEmit_outs (n : Node) (op : Op) : (stepEmit n op).map (·.1) = (step n op).2 := by
  cases op with
  | merge rs now => exact (mergeEmit_node n rs now).2
  | _ => simp [stepEmit, emitOuts_fst]

theorem find_actor {l : List Node} {x : String} {n : Node} (h : l.find? (·.cfg.self == x) = some n) :
    n ∈ l ∧ n.cfg.self = x :=
  ⟨List.mem_of_find?_eq_some h, by simpa using List.find?_some h⟩

theorem act_none (w : World) (x : String) (f : Node → Node × List Out) (src : Option AliveMsg)
    (h : nodeAt w x = none) : act w x f src = w := by
  unfold act; rw [show w.nodes.find? (·.cfg.self == x) = none from h]

theorem act_ind {P : World → Prop} {w : World} {x : String} {f : Node → Node × List Out} {src : Option AliveMsg}
    (h0 : P w) (h1 : ∀ n, nodeAt w x = some n → P (act w x f src)) : P (act w x f src) := by
  cases hf : nodeAt w x with
  | none => rw [act_none _ _ _ _ hf]; exact h0
  | some n => exact h1 n hf

theorem find_map_replace (l : List Node) (x y : String) (n' : Node) (hn' : n'.cfg.self = x) :
    (l.map (fun k => if (k.cfg.self == x) = true then n' else k)).find? (·.cfg.self == y) =
      if x = y then (l.find? (·.cfg.self == x)).map (fun _ => n') else l.find? (·.cfg.self == y) := by
  -- the replacement keeps every node's name, so finding by name commutes with it
  refine (List.find?_map_of_key_eq (key := fun k : Node => k.cfg.self) (fun k => ?_) l y).trans ?_
  · by_cases h : (k.cfg.self == x) = true
    · rw [if_pos h, hn']; exact (beq_iff_eq.mp h).symm
    · rw [if_neg h]
  by_cases hxy : x = y
  · subst hxy
    rw [if_pos rfl]
    cases h : l.find? (·.cfg.self == x) with
    | none => rfl
    | some k => rw [Option.map_some, Option.map_some, if_pos (List.find?_some h)]
  · rw [if_neg hxy]
    cases h : l.find? (·.cfg.self == y) with
    | none => rfl
    | some k =>
      have : k.cfg.self = y := by simpa using List.find?_some h
      rw [Option.map_some, if_neg (by rw [this]; simpa using Ne.symm hxy)]

theorem act_some {w : World} {x : String} {n : Node} (h : nodeAt w x = some n) (f : Node → Node × List Out)
    (src : Option AliveMsg) :
    act w x f src =
      { nodes := w.nodes.map (fun k => if k.cfg.self == x then (f n).1 else k)
        pool := w.pool ++ (f n).2.flatMap (emit (f n).1 src)
        log := w.log ++ (f n).2.map (fun o => (x, o)) } := by
  unfold act; rw [show w.nodes.find? (·.cfg.self == x) = some n from h]

theorem act_nodeAt (w : World) (x y : String) (f : Node → Node × List Out) (src : Option AliveMsg)
    (hcfg : ∀ n, (f n).1.cfg = n.cfg) :
    nodeAt (act w x f src) y = if x = y then (nodeAt w x).map (fun n => (f n).1) else nodeAt w y := by
  cases hf : nodeAt w x with
  | none =>
    rw [act_none _ _ _ _ hf]
    by_cases hxy : x = y
    · rw [if_pos hxy, ← hxy, hf]; rfl
    · rw [if_neg hxy]
  | some n =>
    rw [act_some hf, nodeAt, find_map_replace w.nodes x y (f n).1 (by rw [hcfg, (find_actor hf).2])]
    by_cases hxy : x = y
    · rw [if_pos hxy, if_pos hxy, show w.nodes.find? _ = some n from hf]; rfl
    · rw [if_neg hxy, if_neg hxy]; rfl

theorem mem_act_nodes {w : World} {x : String} {n : Node} (h : nodeAt w x = some n) (f : Node → Node × List Out)
    (src : Option AliveMsg) {m : Node} :
    m ∈ (act w x f src).nodes ↔ m = (f n).1 ∨ (m ∈ w.nodes ∧ m.cfg.self ≠ x) := by
  obtain ⟨hmem, hname⟩ := find_actor h
  rw [act_some h]
  simp only [List.mem_map]
  constructor
  · rintro ⟨k, hk, rfl⟩
    by_cases e : k.cfg.self = x
    · exact Or.inl (by simp [e])
    · exact Or.inr (by simpa [e] using hk)
  · rintro (rfl | ⟨hm, e⟩)
    · exact ⟨n, hmem, by simp [hname]⟩
    · exact ⟨m, hm, by simp [e]⟩

theorem act_names {w : World} {x : String} {n : Node} (h : nodeAt w x = some n) {f : Node → Node × List Out}
    (hcfg : (f n).1.cfg = n.cfg) (src : Option AliveMsg) :
    (act w x f src).nodes.map (·.cfg.self) = w.nodes.map (·.cfg.self) := by
  rw [act_some h, List.map_map]
  refine List.map_congr_left fun k _ => ?_
  by_cases e : k.cfg.self = x
  · simp [e, hcfg, (find_actor h).2]
  · simp [e]

theorem nodeAt_of_mem {w : World} (hnd : (w.nodes.map (·.cfg.self)).Nodup) {n : Node} (hn : n ∈ w.nodes) :
    nodeAt w n.cfg.self = some n := by
  unfold nodeAt
  cases hf : w.nodes.find? (·.cfg.self == n.cfg.self) with
  | none => simpa using List.find?_eq_none.mp hf n hn
  | some m => rw [List.eq_of_nodup_map hnd (find_actor hf).1 hn (find_actor hf).2]

theorem snapshot_nodeAt (w : World) (x y : String) : nodeAt (w.step (.snapshot x)) y = nodeAt w y := by
  simp only [World.step]
  cases w.nodes.find? (·.cfg.self == x) <;> rfl

theorem snapshot_pool {w : World} {x : String} {n : Node} (h : nodeAt w x = some n) :
    (w.step (.snapshot x)).pool = w.pool ++ n.recs.map (fun r => Msg.state (stateOfRec r)) := by
  simp only [World.step, show w.nodes.find? (·.cfg.self == x) = some n from h]

theorem pool_index (pool : List Msg) (recs : List Rec) (j : Nat) (r : Rec) (h : recs[j]? = some r) :
    (pool ++ recs.map (fun r => Msg.state (stateOfRec r)))[pool.length + j]? = some (.state (stateOfRec r)) := by
  rw [List.getElem?_append_right (Nat.le_add_right _ _)]
  simp [h]

theorem receive_cfg (m : Msg) (env : Env) (n : Node) : (receive m env n).1.cfg = n.cfg := by
  cases m with
  | alive a => exact alive_cfg _ _ _ _ _
  | suspect c => exact suspect_cfg _ _ _
  | dead c => exact dead_cfg _ _ _
  | state s => exact mergeOne_cfg _ _ _

theorem deliver_eq {w : World} {i : Nat} {m : Msg} (hm : w.pool[i]? = some m) (x : String) (env : Env) :
    w.step (.deliver x i env) = act w x (receive m env) (srcOf m) := by
  simp only [World.step, hm]

theorem deliver_pool {w : World} {x : String} {i : Nat} {env : Env} {m : Msg} {n : Node} (hm : w.pool[i]? = some m)
    (hn : nodeAt w x = some n) :
    (w.step (.deliver x i env)).pool = w.pool ++ (receive m env n).2.flatMap (emit (receive m env n).1 (srcOf m)) := by
  rw [deliver_eq hm, act_some hn]

theorem deliver_nodeAt {w : World} {x : String} {i : Nat} {env : Env} {m : Msg} {n : Node} (hm : w.pool[i]? = some m)
    (hn : nodeAt w x = some n) (y : String) :
    nodeAt (w.step (.deliver x i env)) y = if x = y then some (receive m env n).1 else nodeAt w y := by
  rw [deliver_eq hm, act_nodeAt w x y _ _ (receive_cfg m env), hn]; rfl

/-- `h0`: the entry or the node does not exist and the world is unchanged; then one hypothesis per kind of step, with
its acting node present. -/
theorem World.step_ind {P : COp → World → Prop} {w : World} (h0 : ∀ op, P op w)
    (deliver : ∀ x i env m n, m ∈ w.pool → nodeAt w x = some n → P (.deliver x i env) (act w x (receive m env) (srcOf m)))
    (snapshot : ∀ x n, nodeAt w x = some n →
      P (.snapshot x) { w with pool := w.pool ++ n.recs.map (fun r => Msg.state (stateOfRec r)) })
    (announce : ∀ x addr port md vsn env n, nodeAt w x = some n → P (.announce x addr port md vsn env)
      (act w x (announce addr port md vsn env) (some (announceSrc addr port md vsn n))))
    (leave : ∀ x env n, nodeAt w x = some n → P (.leave x env) (act w x (fun n => leave n env) none))
    (fire : ∀ x node ca env n, nodeAt w x = some n →
      P (.fire x node ca env) (act w x (fun n => timerFire n node ca env) none))
    (reap : ∀ x n, nodeAt w x = some n → P (.reap x) (act w x (fun n => (reap n, [])) none))
    (age : ∀ x name n, nodeAt w x = some n → P (.age x name) (act w x (fun n => (ageRec n name, [])) none))
    (probeFail : ∀ x t env n, nodeAt w x = some n → P (.probeFail x t env) (act w x (probeFail t env) none))
    (op : COp) : P op (w.step op) := by
  cases op with
  | deliver x i env =>
    simp only [World.step]
    cases hm : w.pool[i]? with
    | none => exact h0 _
    | some m => exact act_ind (h0 _) fun n hn => deliver x i env m n (List.mem_of_getElem? hm) hn
  | snapshot x =>
    simp only [World.step]
    cases hf : w.nodes.find? (·.cfg.self == x) with
    | none => exact h0 _
    | some n => exact snapshot x n hf
  | announce x addr port md vsn env =>
    simp only [World.step]
    cases hf : w.nodes.find? (·.cfg.self == x) with
    | none => exact h0 _
    | some n => exact announce x addr port md vsn env n hf
  | leave x env => exact act_ind (h0 _) (leave x env)
  | fire x node ca env => exact act_ind (h0 _) (fire x node ca env)
  | reap x => exact act_ind (h0 _) (reap x)
  | age x name => exact act_ind (h0 _) (age x name)
  | probeFail x t env => exact act_ind (h0 _) (probeFail x t env)

theorem probeFail_other {t : String} {env : Env} {n : Node} {r : Rec} (hs : t ≠ n.cfg.self)
    (hl : lookup n.recs t = some r) :
    probeFail t env n = suspectNode n { inc := r.inc, node := t, frm := n.cfg.self } env := by
  have : (t == n.cfg.self) = false := by simpa using hs
  simp [probeFail, this, hl]

theorem probeFail_cases (t : String) (env : Env) (n : Node) :
    probeFail t env n = (n, []) ∨
    ∃ r, t ≠ n.cfg.self ∧ lookup n.recs t = some r ∧
      probeFail t env n = suspectNode n { inc := r.inc, node := t, frm := n.cfg.self } env := by
  by_cases hs : t = n.cfg.self
  · exact .inl (if_pos (by simpa using hs))
  · cases hl : lookup n.recs t with
    | none => exact .inl (by simp [probeFail, hl])
    | some r => exact .inr ⟨r, hs, rfl, probeFail_other hs hl⟩

theorem probeFail_cfg (t : String) (env : Env) (n : Node) : (probeFail t env n).1.cfg = n.cfg := by
  rcases probeFail_cases t env n with e | ⟨_, _, _, e⟩ <;> rw [e]
  exact suspect_cfg _ _ _

/-- A state entry is merged under the receiver's own verdicts: `(withEnv s env).toAlive` is `aliveOfState s` and
`(withEnv s env).toEnv env.now` is `env`, by definition. -/
theorem receive_state (s : PushState) (env : Env) (n : Node) :
    receive (.state s) env n = match s.st with
      | .alive => aliveNode n (aliveOfState s) false false env
      | .left => deadNode n { inc := s.inc, node := s.name, frm := s.name } env
      | _ => suspectNode n { inc := s.inc, node := s.name, frm := n.cfg.self } env :=
  mergeOne_eq n (withEnv s env) env.now

theorem receive_state_alive (s : PushState) (env : Env) (h : s.st = .alive) :
    receive (.state s) env = fun n => aliveNode n (aliveOfState s) false false env :=
  funext fun n => by rw [receive_state, h]

theorem receive_state_left (s : PushState) (env : Env) (h : s.st = .left) :
    receive (.state s) env = fun n => deadNode n { inc := s.inc, node := s.name, frm := s.name } env :=
  funext fun n => by rw [receive_state, h]

theorem receive_state_susp (s : PushState) (env : Env) (n : Node) (h : s.st = .suspect ∨ s.st = .dead) :
    receive (.state s) env n = suspectNode n { inc := s.inc, node := s.name, frm := n.cfg.self } env := by
  rw [receive_state]
  rcases h with h | h <;> rw [h]

theorem emit_refute (n' : Node) (src : Option AliveMsg) (name : String) (inc : Nat) (R : Rec)
    (h : lookup n'.recs name = some R) :
    emit n' src (Out.bcast ("@" ++ name) .alive name inc "" false) = [.alive (aliveOfRec R)] := by
  -- the queue name of a refutation is not the member's name: it is one character longer
  have hq : (("@" ++ name) == name) = false :=
    beq_eq_false_iff_ne.mpr fun e => by simpa [String.length_append] using congrArg String.length e
  simp [emit, hq, h]

theorem aliveOfRec_acceptRec {r : Rec} {a : AliveMsg} (env : Env) (hrn : r.name = a.node) (hv : a.vsn.length = 6) :
    aliveOfRec (acceptRec r a env) = a := by
  simp [aliveOfRec, hrn, hv, List.take_of_length_le]

theorem accept_emit {a : AliveMsg} {nt : Bool} {r : Rec} {o : Out} (ho : o ∈ acceptOuts a nt r) :
    (∀ n' : Node, ∀ m ∈ emit n' (some a) o, m = .alive a) ∧ ∀ nm, o ≠ Out.leave nm := by
  refine ⟨fun n' m hm => ?_, accept_no_leave ho⟩
  rcases mem_acceptOuts ho with rfl | ⟨_, rfl⟩ | ⟨_, rfl⟩
  · simpa [emit] using hm
  · cases hm
  · cases hm

/-- An alive claim about another member with a positive incarnation and six version bytes, whatever its outcome: only
`recs`, `timers` and `numNodes` move; no timer is added; the node's own record is untouched; every record afterwards was
held before or is the claim, held alive; every effect emits the claim and nothing else, and none is a leave event.
`alive_self_sum`, for a claim about the node itself that its own record covers: only timers go, and nothing is emitted. -/
theorem alive_other_sum (n : Node) (a : AliveMsg) (nt b : Bool) (env : Env)
    (hself : a.node ≠ n.cfg.self) (hinc : 0 < a.inc) (hv : a.vsn.length = 6) :
    ∃ recs' ts' nn outs, aliveNode n a nt b env = ({ n with recs := recs', timers := ts', numNodes := nn }, outs) ∧
      (∀ t ∈ ts', t ∈ n.timers) ∧ lookup recs' n.cfg.self = lookup n.recs n.cfg.self ∧
      (∀ x ∈ recs', x ∈ n.recs ∨ (x.st = .alive ∧ aliveOfRec x = a)) ∧
      ∀ o ∈ outs, (∀ n' : Node, ∀ m ∈ emit n' (some a) o, m = .alive a) ∧ ∀ nm, o ≠ Out.leave nm := by
  have hown := aliveNode_frame n a nt b env n.cfg.self (Ne.symm hself)
  -- unchanged, or accepted over `m`, `r`: the node and the held record, or the node with the stub and the stub, which
  -- the accepted record replaces; the accepted record is the claim (`aliveOfRec_acceptRec`)
  rcases aliveNode_other n a nt b env hself hinc with ⟨e, ho⟩ | ⟨m, r, hm, hlk, e⟩
  · refine ⟨_, _, _, _, Prod.ext e rfl, fun _ h => h, rfl, fun x hx => .inl hx, fun o h => ?_⟩
    obtain ⟨_, _, _, rfl⟩ := ho o h
    exact ⟨fun _ _ hm => (nomatch hm), nofun⟩
  · have hrn := lookup_name hlk
    have hnew : ∀ x, x = acceptRec r a env → x.st = .alive ∧ aliveOfRec x = a := by
      rintro x rfl
      exact ⟨rfl, aliveOfRec_acceptRec env hrn hv⟩
    rcases hm with rfl | ⟨_, rfl, rfl⟩
    · refine ⟨_, _, _, _, e, fun t ht => mem_delTimer' ht, by rw [← hown, e], fun x hx => ?_,
        fun o ho => accept_emit ho⟩
      exact (mem_setRec hx).imp_right (hnew x)
    · refine ⟨_, _, _, _, e, fun t ht => mem_delTimer' ht, by rw [← hown, e],
        fun x hx => ?_, fun o ho => accept_emit ho⟩
      rcases mem_setRec_cases hx with ⟨hx', hn⟩ | rfl
      · rcases List.mem_append.mp hx' with h | h
        · exact .inl h
        · cases List.mem_singleton.mp h; exact absurd rfl hn
      · exact .inr (hnew _ rfl)

theorem alive_self_sum (n : Node) (a : AliveMsg) (nt : Bool) (env : Env) (me : Rec)
    (hs : a.node = n.cfg.self) (hme : lookup n.recs n.cfg.self = some me)
    (hle : a.inc ≤ me.inc) (heq : a.inc = me.inc → a.md = me.md ∧ a.vsn = me.vsn) :
    ∃ ts' outs, aliveNode n a nt false env = ({ n with timers := ts' }, outs) ∧ (∀ t ∈ ts', t ∈ n.timers) ∧
      ∀ o ∈ outs, (∀ n' src, emit n' src o = []) ∧ ∀ nm, o ≠ Out.leave nm := by
  rcases aliveNode_known n a nt false env me (hs ▸ hme) with e | ⟨_, _, _, e⟩ | ⟨_, _, _, _, e⟩ | ⟨_, _, _, ⟨h1, h2⟩, _⟩ | ⟨h, _⟩
  · exact ⟨_, _, e, fun _ h => h, fun _ ho => nomatch ho⟩
  · refine ⟨_, _, e, fun _ h => h, fun o ho => ?_⟩
    cases conflict_outs ho
    exact ⟨fun _ _ => rfl, nofun⟩
  · exact ⟨_, _, e, fun t ht => mem_delTimer' ht, fun _ ho => nomatch ho⟩
  · have e := Nat.le_antisymm hle h1
    exact absurd ⟨e, heq e⟩ h2
  · cases (h hs).2.1

theorem announce_eq (addr port md : Nat) (vsn : List Nat) (env : Env) (n : Node) :
    announce addr port md vsn env n = (n, []) ∨
    (announce addr port md vsn env n =
        aliveNode { n with selfInc := (n.selfInc + 1) % u32 } (announceSrc addr port md vsn n) true true env ∧
      ((announceSrc addr port md vsn n).vsn.length = 6 ∨
        ∃ me, lookup n.recs n.cfg.self = some me ∧ (announceSrc addr port md vsn n).vsn = me.vsn)) := by
  unfold announce announceSrc
  cases hme : lookup n.recs n.cfg.self with
  | some me => exact Or.inr ⟨rfl, Or.inr ⟨me, rfl, rfl⟩⟩
  | none =>
    by_cases hv : vsn.length = 6
    · rw [if_pos hv]; exact Or.inr ⟨rfl, Or.inl hv⟩
    · rw [if_neg hv]; exact Or.inl rfl

theorem announce_cfg (addr port md : Nat) (vsn : List Nat) (env : Env) (n : Node) :
    (announce addr port md vsn env n).1.cfg = n.cfg := by
  rcases announce_eq addr port md vsn env n with e | ⟨e, _⟩ <;> rw [e]
  exact alive_cfg ..

theorem announceSrc_facts (addr port md : Nat) (vsn : List Nat) (n : Node) :
    (announceSrc addr port md vsn n).node = n.cfg.self ∧ (announceSrc addr port md vsn n).inc = (n.selfInc + 1) % u32 ∧
    ∀ me, lookup n.recs n.cfg.self = some me →
      me.addr = (announceSrc addr port md vsn n).addr ∧ me.port = (announceSrc addr port md vsn n).port := by
  unfold announceSrc
  cases lookup n.recs n.cfg.self with
  | some me => exact ⟨rfl, rfl, fun _ h => by cases h; exact ⟨rfl, rfl⟩⟩
  | none => exact ⟨rfl, rfl, nofun⟩

/-- A node announces itself (`setAlive`, `UpdateNode`): only the counter moves (the claim is filtered, or the node has
left), or its own record becomes the announced claim. -/
theorem announce_cases (n : Node) (addr port md : Nat) (vsn : List Nat) (env : Env)
    (hb : n.selfInc + 1 < u32)
    (hself : ∀ me, lookup n.recs n.cfg.self = some me → me.inc ≤ n.selfInc ∧ me.vsn.length = 6) :
    (∃ i', announce addr port md vsn env n = ({ n with selfInc := i' }, []) ∧ (i' = n.selfInc ∨ i' = n.selfInc + 1)) ∨
    (n.hasLeft = false ∧ ∃ R ts' nn outs,
      (∃ recs', announce addr port md vsn env n =
          ({ n with selfInc := n.selfInc + 1, recs := recs', timers := ts', numNodes := nn }, outs) ∧
        ((lookup n.recs n.cfg.self).isSome ∧ recs' = setRec n.recs R ∨
          lookup n.recs n.cfg.self = none ∧ recs' = n.recs ++ [R])) ∧
      (R.st = .alive ∧ aliveOfRec R = announceSrc addr port md vsn n ∧ R.inc = n.selfInc + 1 ∧
        R.vsn.length = 6 ∧ R.name = n.cfg.self) ∧ (∀ t ∈ ts', t ∈ n.timers) ∧
      ∀ o ∈ outs, (∀ n' : Node, ∀ m ∈ emit n' (some (announceSrc addr port md vsn n)) o,
          m = .alive (announceSrc addr port md vsn n)) ∧ ∀ nm, o ≠ Out.leave nm) := by
  have hmod : (n.selfInc + 1) % u32 = n.selfInc + 1 := Nat.mod_eq_of_lt hb
  obtain ⟨hs, hinc, haddr⟩ := announceSrc_facts addr port md vsn n
  rcases announce_eq addr port md vsn env n with e | ⟨e, hv'⟩
  · exact Or.inl ⟨_, e, Or.inl rfl⟩
  rw [e, hmod]
  rw [hmod] at hinc
  have hv : (announceSrc addr port md vsn n).vsn.length = 6 := by
    rcases hv' with h | ⟨me, hme, h⟩
    · exact h
    · rw [h]; exact (hself me hme).2
  generalize announceSrc addr port md vsn n = a at *
  -- the accepted record, over the record `r` consulted (its own, or the stub)
  have hR : ∀ r : Rec, r.name = a.node → (acceptRec r a env).st = .alive ∧ aliveOfRec (acceptRec r a env) = a ∧
      (acceptRec r a env).inc = n.selfInc + 1 ∧ (acceptRec r a env).vsn.length = 6 ∧
      (acceptRec r a env).name = n.cfg.self := fun r hrn =>
    ⟨rfl, aliveOfRec_acceptRec env hrn hv, hinc,
      (congrArg (·.vsn.length) (aliveOfRec_acceptRec env hrn hv)).trans hv, hrn.trans hs⟩
  -- dropped by the filters, the announcement moves the counter only; past them it is accepted, over `me` or the stub
  cases hd : dropped { n with selfInc := n.selfInc + 1 } a env
  case true => exact Or.inl ⟨_, aliveNode_dropped _ a true true env hd, Or.inr rfl⟩
  have hnl : n.hasLeft = false := running_of_passed hd hs
  cases hme : lookup n.recs n.cfg.self with
  | some me =>
    have hme' : lookup ({ n with selfInc := n.selfInc + 1 } : Node).recs a.node = some me := hs ▸ hme
    exact Or.inr ⟨hnl, acceptRec me a env, _, _, _,
      ⟨_, aliveNode_accept_self _ a true env me hs hme' hd
        (haddr me hme) (hinc ▸ Nat.le_succ_of_le (hself me hme).1), Or.inl ⟨rfl, rfl⟩⟩,
      hR me ((lookup_name hme).trans hs.symm), fun t ht => mem_delTimer' ht, fun o ho => accept_emit ho⟩
  | none =>
    have hnone : lookup ({ n with selfInc := n.selfInc + 1 } : Node).recs a.node = none := hs ▸ hme
    rw [aliveNode_unknown _ a true true env hnone]
    cases hip : env.ipAllowed
    case false => rw [if_neg fun h => Bool.noConfusion h.2]; exact Or.inl ⟨_, rfl, Or.inr rfl⟩
    rw [if_pos ⟨hd, rfl⟩, aliveNode_accept_self (withStub { n with selfInc := n.selfInc + 1 } a) a true env (stub a) hs
        (lookup_withStub_self hnone) hd ⟨rfl, rfl⟩ (Nat.zero_le _),
      show setRec (withStub { n with selfInc := n.selfInc + 1 } a).recs (acceptRec (stub a) a env) =
          n.recs ++ [acceptRec (stub a) a env] from
        setRec_append_stub rfl hnone]
    exact Or.inr ⟨hnl, acceptRec (stub a) a env, _, _, _, ⟨_, rfl, Or.inr ⟨rfl, rfl⟩⟩, hR _ rfl,
      fun t ht => mem_delTimer' ht, fun o ho => accept_emit ho⟩

def selfRec (n : Node) : Option Rec := lookup n.recs n.cfg.self

/-- the alive claim is covered by what its subject holds about itself now: not newer than the
subject's own record, and at the same incarnation it carries the same metadata and versions -/
def Owned (w : World) (a : AliveMsg) : Prop :=
  ∃ n ∈ w.nodes, n.cfg.self = a.node ∧ ∃ me, selfRec n = some me ∧ a.inc ≤ me.inc ∧
    (a.inc = me.inc → a.md = me.md ∧ a.vsn = me.vsn)

/-- an alive claim as a real node sends it: positive incarnation, all six version bytes, covered by its subject -/
def GoodAlive (w : World) (a : AliveMsg) : Prop := 0 < a.inc ∧ a.vsn.length = 6 ∧ Owned w a

/-- `x` has called Leave, at an incarnation not below `inc` -/
def Departed (w : World) (x : String) (inc : Nat) : Prop :=
  ∃ n ∈ w.nodes, n.cfg.self = x ∧ n.hasLeft = true ∧ ∃ me, selfRec n = some me ∧ inc ≤ me.inc

def HasLeft (w : World) (x : String) : Prop := ∃ n ∈ w.nodes, n.cfg.self = x ∧ n.hasLeft = true

theorem Departed.hasLeft {w : World} {x : String} {i : Nat} (h : Departed w x i) : HasLeft w x :=
  let ⟨n, hn, hname, hl, _⟩ := h
  ⟨n, hn, hname, hl⟩

theorem named_iff {w : World} (hnd : (w.nodes.map (·.cfg.self)).Nodup) {X : Node} (hX : X ∈ w.nodes) {x : String}
    (hx : x = X.cfg.self) {P : Node → Prop} : (∃ n ∈ w.nodes, n.cfg.self = x ∧ P n) ↔ P X :=
  ⟨fun ⟨_, hn, e, h⟩ => List.eq_of_nodup_map hnd hn hX (e.trans hx) ▸ h, fun h => ⟨X, hX, hx.symm, h⟩⟩

/-- what a node holds about itself only moves forward, and keeps its address -/
def OwnerMono (n n' : Node) : Prop :=
  n'.cfg = n.cfg ∧ (n.hasLeft = true → n'.hasLeft = true) ∧
  ∀ me, selfRec n = some me → ∃ me', selfRec n' = some me' ∧ me.inc ≤ me'.inc ∧
    (me.inc = me'.inc → me'.md = me.md ∧ me'.vsn = me.vsn) ∧ me'.addr = me.addr ∧ me'.port = me.port

/-- `w'` is a later world as far as claims are concerned: every node of `w` is still there, moved on at most -/
def Ext (w w' : World) : Prop := ∀ n ∈ w.nodes, ∃ n' ∈ w'.nodes, OwnerMono n n'

theorem OwnerMono.refl (n : Node) : OwnerMono n n :=
  ⟨rfl, id, fun me h => ⟨me, h, Nat.le_refl _, fun _ => ⟨rfl, rfl⟩, rfl, rfl⟩⟩

theorem Ext.of_nodes_eq {w w' : World} (h : w'.nodes = w.nodes) : Ext w w' :=
  fun n hn => ⟨n, h ▸ hn, OwnerMono.refl n⟩

theorem Ext.named {w w' : World} (h : Ext w w') {P : Node → Prop} (hP : ∀ n n', OwnerMono n n' → P n → P n')
    {x : String} (hx : ∃ n ∈ w.nodes, n.cfg.self = x ∧ P n) : ∃ n' ∈ w'.nodes, n'.cfg.self = x ∧ P n' :=
  let ⟨n, hn, e, hp⟩ := hx
  let ⟨n', hn', hm⟩ := h n hn
  ⟨n', hn', by rw [hm.1]; exact e, hP n n' hm hp⟩

theorem Owned.ext {w w' : World} (h : Ext w w') {a : AliveMsg} (ho : Owned w a) : Owned w' a := by
  refine h.named (fun n n' hm ⟨me, hme, hle, heq⟩ => ?_) ho
  obtain ⟨me', hme', h1, h2, _⟩ := hm.2.2 me hme
  refine ⟨me', hme', Nat.le_trans hle h1, fun e => ?_⟩
  -- the claim is at the old incarnation and the old incarnation is the new one
  have e1 : a.inc = me.inc := Nat.le_antisymm hle (e ▸ h1)
  obtain ⟨x1, x2⟩ := heq e1
  obtain ⟨y1, y2⟩ := h2 (e1.symm.trans e)
  exact ⟨x1.trans y1.symm, x2.trans y2.symm⟩

theorem GoodAlive.ext {w w' : World} (h : Ext w w') {a : AliveMsg} (hg : GoodAlive w a) : GoodAlive w' a :=
  ⟨hg.1, hg.2.1, hg.2.2.ext h⟩

theorem Departed.ext {w w' : World} (h : Ext w w') {x : String} {i : Nat} (hd : Departed w x i) : Departed w' x i :=
  h.named (fun _ _ hm ⟨hl, me, hme, hle⟩ =>
    let ⟨me', hme', h1, _⟩ := hm.2.2 me hme
    ⟨hm.2.1 hl, me', hme', Nat.le_trans hle h1⟩) hd

end Swim.Cluster
