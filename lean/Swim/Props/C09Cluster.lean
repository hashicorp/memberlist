import Swim.Props.ClusterG
import Swim.Props.C09
/-!
# C09 at cluster level: a state exchange makes the receiver list the sender
Whether `J` had never heard of `H`, held an older record in any state, or already listed it. The one exception, a record
that says `H` is dead at `H`'s current incarnation, is real: an alive claim at the same incarnation does not override it
(`H` first has to refute, `C05_cluster_recoverable`). That the entry carries the address `J` has on record is an
invariant, not an assumption. The theorem is for histories of fewer than 2^32 steps (no incarnation counter wraps).
-/
namespace Swim.Cluster
open Swim.Merge

/-- In every reachable state: after a node `H` that holds itself alive (sane protocol versions) sends its state list,
some entry of the pool delivered to `J` (no alive delegate, address admitted) makes `J` list `H`, unless `J` already
holds `H` dead or left at `H`'s current incarnation. -/
theorem C09_cluster_join_lists (w0 : World) (ops : List COp) (hfresh : Fresh w0) (hlen : ops.length < u32)
    (H J : Node) (hH : H ∈ (w0.run ops).nodes) (hJ : J ∈ (w0.run ops).nodes) (hne : H.cfg.self ≠ J.cfg.self)
    (me : Rec) (hme : selfRec H = some me) (hal : me.st = .alive)
    (hv : vsnBad me.vsn = false) (hdel : J.cfg.hasAliveDelegate = false) (env : Env) (hip : env.ipAllowed = true)
    (hprior : ∀ r ∈ J.recs, r.name = H.cfg.self → r.inc = me.inc → r.st.deadOrLeft = false) :
    ∃ j, ∃ J', nodeAt ((w0.run ops).run [.snapshot H.cfg.self, .deliver J.cfg.self ((w0.run ops).pool.length + j) env])
        J.cfg.self = some J' ∧ listedAt J' H.cfg.self = true := by
  have hinv := ginv_reachable ops hfresh hlen
  generalize w0.run ops = w at *
  have hmn : me.name = H.cfg.self := lookup_name hme
  obtain ⟨f1, f2, f3, _, _⟩ := hinv.self hH me hme
  obtain ⟨j, hj⟩ := exchange_self hinv hH hJ hme env
  refine ⟨j, _, hj, ?_⟩
  have hname : (withEnv (stateOfRec me) env).name = H.cfg.self := hmn
  have hnode : (aliveOfState (stateOfRec me)).node = H.cfg.self := hmn
  -- the entry is listed once merged, given `C09_join_lists`' condition on what `J` holds about `H`
  have join := C09_join_lists J (withEnv (stateOfRec me) env) env.now hal (by rw [hname]; exact hne) hv (by simp [hdel]) hip
  rw [hname] at join
  cases hl : lookup J.recs H.cfg.self with
  | none => exact join (by rw [hl]; exact f2)
  | some r =>
    have hr : r ∈ J.recs := lookup_mem hl
    have hrn : r.name = H.cfg.self := lookup_name hl
    obtain ⟨hle, haddr, _⟩ := accusation_facts hinv hH hJ hme hr hrn hne
    -- an older record is overridden; at `H`'s own incarnation the entry changes nothing and `J` lists `H` by `hprior`
    by_cases hlt : r.inc < me.inc
    · exact join (by rw [hl]; exact ⟨haddr, hlt⟩)
    · have heq : r.inc = me.inc := Nat.le_antisymm hle (Nat.not_lt.mp hlt)
      rw [receive_state_alive _ env hal, aliveNode_stale_same_address J _ false false env r (by rw [hnode]; exact hne)
        (by rw [hnode]; exact hl) haddr (Nat.le_of_eq heq.symm), listedAt_of hl, hprior r hr hrn heq]
      rfl

end Swim.Cluster
