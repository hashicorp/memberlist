import Swim.Lemmas.Rules
/-!
# C02  A running node always defends itself: refutation outranks every accusation
-/
namespace Swim.Merge

/-- The refuted incarnation is strictly above the accusation (and still a
uint32) for every current incarnation and every accusation below the largest representable one. -/
theorem C02_refute_gt (cur acc : Nat) (hc : cur < u32) (ha : acc < u32 - 1) :
    acc < refuteInc cur acc ∧ refuteInc cur acc < u32 := by
  refine ⟨lt_refuteInc cur acc ha, ?_⟩
  rw [refuteInc_eq_max cur acc ha]
  exact Nat.max_lt.mpr ⟨Nat.mod_lt _ (by decide), Nat.add_lt_of_lt_sub ha⟩

/-- the excluded point: an accusation at 2^32-1 cannot be outranked; the counter wraps to 0 -/
theorem C02_refute_wrap_witness : refuteInc 5 (u32 - 1) = 0 := by decide

/-- the refuted incarnation is also strictly above the node's own previous one (no wrap) -/
theorem C02_refute_gt_own (cur acc : Nat) (hc : cur + 1 < u32) (ha : acc < u32 - 1) :
    cur < refuteInc cur acc := by
  rw [refuteInc_eq_max cur acc ha, Nat.mod_eq_of_lt hc]
  exact Nat.lt_of_lt_of_le (Nat.lt_succ_self cur) (Nat.le_max_left ..)

/-- what a refutation guarantees, packaged: incarnation strictly above the accusation, the local
record carries it and keeps its state, exactly one alive broadcast with it, score +1 (clamped) -/
def Refuted (n : Node) (acc : Nat) (r : Node × List Out) : Prop :=
  acc < r.1.selfInc ∧
  (∃ me', lookup r.1.recs n.cfg.self = some me' ∧ me'.inc = r.1.selfInc ∧ me'.st = .alive) ∧
  r.2.filter (fun o => match o with | .bcast .. => true | _ => false) =
    [.bcast ("@" ++ n.cfg.self) .alive n.cfg.self r.1.selfInc "" false] ∧
  r.1.score = bumpScore n 1

/-- `base` is `n` as far as the refutation is concerned: same name, limits and score -/
theorem refuted_of_refute (n base : Node) (me : Rec) (acc : Nat) (hme : lookup base.recs n.cfg.self = some me)
    (halive : me.st = .alive) (ha : acc < u32 - 1) (hcfg : base.cfg = n.cfg) (hscore : base.score = n.score) :
    Refuted n acc (refute base me acc) := by
  have hn := lookup_name hme
  refine ⟨lt_refuteInc base.selfInc acc ha, ⟨{ me with inc := refuteInc base.selfInc acc }, ?_, rfl, halive⟩, ?_, ?_⟩
  · simp [hn, hme]
  · rw [refute_outs, hn]; rfl
  · simp [bumpScore, hcfg, hscore]

/-- A suspect claim about the running local node at an
incarnation at least its own is refuted (the node has no suspicion timer about itself; its counter is below 2^32 and the
claim's incarnation below 2^32 - 1). -/
theorem C02_suspect_refuted (n : Node) (s : Claim) (env : Env) (me : Rec)
    (hnode : s.node = n.cfg.self) (hme : lookup n.recs n.cfg.self = some me)
    (halive : me.st = .alive) (hnt : n.timers.find? (·.node == s.node) = none)
    (hinc : me.inc ≤ s.inc) (hc : n.selfInc < u32) (ha : s.inc < u32 - 1) :
    Refuted n s.inc (suspectNode n s env) := by
  rw [suspectNode_self n s env me hnode (hnode ▸ hme) halive hnt hinc]
  exact refuted_of_refute n n me s.inc hme halive ha rfl rfl

/-- Same for a dead claim, while the node has not called Leave. -/
theorem C02_dead_refuted (n : Node) (d : Claim) (env : Env) (me : Rec)
    (hnode : d.node = n.cfg.self) (hme : lookup n.recs n.cfg.self = some me)
    (halive : me.st = .alive) (hnl : n.hasLeft = false)
    (hinc : me.inc ≤ d.inc) (hc : n.selfInc < u32) (ha : d.inc < u32 - 1) :
    Refuted n d.inc (deadNode n d env) := by
  rw [deadNode_self n d env me hnode (hnode ▸ hme) (by rw [halive]; rfl) hnl hinc]
  exact refuted_of_refute n _ me d.inc hme halive ha rfl rfl

/-- An alive claim about the running local node that passes the filters (`hv`, `hdel`), from its own address, newer
or equally new but with different metadata or versions, is refuted. -/
theorem C02_alive_refuted (n : Node) (a : AliveMsg) (nt : Bool) (env : Env) (me : Rec)
    (hnode : a.node = n.cfg.self) (hme : lookup n.recs n.cfg.self = some me)
    (halive : me.st = .alive)
    (hnl : n.hasLeft = false) (hv : vsnBad a.vsn = false)
    (hdel : (n.cfg.hasAliveDelegate && (a.vsn.length < 6 || !env.delegateOk)) = false)
    (haddr : me.addr = a.addr ∧ me.port = a.port)
    (hnew : me.inc < a.inc ∨ (me.inc = a.inc ∧ (a.md ≠ me.md ∨ a.vsn ≠ me.vsn)))
    (hc : n.selfInc < u32) (ha : a.inc < u32 - 1) :
    Refuted n a.inc (aliveNode n a nt false env) := by
  have hinc : me.inc ≤ a.inc := hnew.elim Nat.le_of_lt fun h => Nat.le_of_eq h.1
  have hdiff : ¬ (a.inc = me.inc ∧ a.md = me.md ∧ a.vsn = me.vsn) := fun ⟨e, em, ev⟩ =>
    hnew.elim (fun h => Nat.ne_of_gt h e) fun h => h.2.elim (absurd em) (absurd ev)
  rw [aliveNode_refute n a nt env me hnode (hnode ▸ hme) (dropped_eq_false_iff.mpr ⟨by rw [hnl, Bool.false_and], hv, hdel⟩) haddr hinc hdiff,
    show me.st.deadOrLeft = false by rw [halive]; rfl, if_neg Bool.false_ne_true, List.append_nil]
  exact refuted_of_refute n _ me a.inc hme halive ha rfl rfl

/-- self invariant: the local record exists and is alive, unless Leave was called -/
def SelfOk (n : Node) : Prop :=
  ∃ me, lookup n.recs n.cfg.self = some me ∧ (n.hasLeft = false → me.st = .alive)

theorem SelfOk.of_eq {n n' : Node} (h : SelfOk n) (hc : n'.cfg = n.cfg) (hl : n'.hasLeft = n.hasLeft)
    (hr : lookup n'.recs n.cfg.self = lookup n.recs n.cfg.self) : SelfOk n' := by
  obtain ⟨me, hme, hal⟩ := h
  exact ⟨me, by rw [hc, hr, hme], by rwa [hl]⟩

/-- `hr`, `hy` in the shape the case lemmas of the rules give them -/
theorem SelfOk.of_setRec {n n' : Node} {r r' : Rec} {y : String} (hrecs : n'.recs = setRec n.recs r') (hc : n'.cfg = n.cfg)
    (hr : lookup n.recs y = some r) (hy : y = n.cfg.self) (hn : r'.name = r.name)
    (hal : n'.hasLeft = false → r'.st = .alive) : SelfOk n' :=
  ⟨r', by rw [hc, hrecs, ← hy]; exact lookup_setRec_of_some hr hn, hal⟩

theorem SelfOk.withStub {n : Node} (a : AliveMsg) (h : SelfOk n) : SelfOk (Merge.withStub n a) :=
  let ⟨me, hme, hal⟩ := h
  ⟨me, lookup_withStub_of_some a hme, hal⟩

theorem C02_suspect_selfOk (n : Node) (s : Claim) (env : Env) (h : SelfOk n) : SelfOk (suspectNode n s env).1 := by
  rcases suspectNode_cases n s env with e | ⟨r, hr, _, ⟨_, _, _, e⟩ | ⟨_, hal, ⟨hs, e⟩ | ⟨hs, e⟩⟩⟩ <;> rw [e]
  · exact h
  · exact h
  · exact .of_setRec (n := n) rfl rfl hr hs rfl fun _ => hal
  · exact h.of_eq rfl rfl (by simp [lookup_name hr, Ne.symm hs])

/-- A dead claim keeps the local record in place and, while Leave has not been called, alive: one about the
running node itself is refuted. -/
theorem C02_dead_selfOk (n : Node) (d : Claim) (env : Env) (h : SelfOk n) : SelfOk (deadNode n d env).1 := by
  rcases deadNode_cases n d env with ⟨_, e⟩ | ⟨r, hr, _, ⟨_, e⟩ | ⟨_, ⟨hs, hl, e⟩ | ⟨hl, e⟩⟩⟩ <;> rw [e]
  · exact h
  · exact h
  · obtain ⟨me, hme, hal⟩ := h
    cases (hs ▸ hr).symm.trans hme
    exact .of_setRec (n := n) rfl rfl hr hs rfl hal
  · by_cases hs : d.node = n.cfg.self
    · exact .of_setRec (n := n) rfl rfl hr hs rfl fun h => by simp [hl hs] at h
    · exact h.of_eq rfl rfl (by simp [lookup_name hr, Ne.symm hs])

/-- No alive claim - about the node itself or anyone else, by any path - removes the local record or, while
Leave has not been called, makes it anything but alive. -/
theorem C02_alive_selfOk (n : Node) (a : AliveMsg) (nt b : Bool) (env : Env) (h : SelfOk n) :
    SelfOk (aliveNode n a nt b env).1 := by
  refine aliveNode_elim (R := fun n res => SelfOk n → SelfOk res.1) a nt b env ?_ (fun _ h => h) ?_ n h
  · intro n r hr h
    rcases aliveNode_known n a nt b env r hr with e | ⟨_, _, _, e⟩ | ⟨_, _, _, _, e⟩ | ⟨hs, hl, _, _, e⟩ | ⟨_, _, _, e⟩
      <;> rw [e]
    · exact h
    · exact h
    · exact h
    · obtain ⟨me, hme, hal⟩ := h
      cases (hs ▸ hr).symm.trans hme
      exact .of_setRec (n := n) rfl rfl hr hs rfl hal
    · by_cases hs : a.node = n.cfg.self
      · exact .of_setRec (n := n) rfl rfl hr hs rfl fun _ => rfl
      · exact h.of_eq rfl rfl (by simp [lookup_name hr, Ne.symm hs])
  · exact fun n res _ _ hres h => hres (h.withStub a)

theorem C02_reap_selfOk (n : Node) (h : SelfOk n) : SelfOk (reap n) := by
  obtain ⟨me, hme, hal⟩ := h
  exact ⟨me, (lookup_filter (y := n.cfg.self) fun r hr => by simp [lookup_name hr]).trans hme, hal⟩

theorem C02_age_selfOk (n : Node) (name : String) (h : SelfOk n) : SelfOk (ageRec n name) := by
  obtain ⟨me, hme, hal⟩ := h
  exact ⟨_, (lookup_ageRec n name _).trans (congrArg _ hme), hal⟩

/-- Every operation of the model - claims by any path, push/pull merges, timer callbacks (current or stale), reaping,
UpdateNode, Leave, ageing - keeps `SelfOk`. -/
theorem C02_step_selfOk (n : Node) (op : Op) (h : SelfOk n) : SelfOk (step n op).1 :=
  step_inv (alive := C02_alive_selfOk) (suspect := C02_suspect_selfOk) (dead := C02_dead_selfOk)
    (reap := C02_reap_selfOk) (age := C02_age_selfOk) (selfInc := fun _ _ h => h)
    (left := fun _ ⟨me, hme, _⟩ => ⟨me, hme, nofun⟩) n op h

theorem C02_mergeOne_selfOk (n : Node) (r : PushState) (now : Nat) (h : SelfOk n) : SelfOk (mergeOne n r now).1 :=
  mergeOne_inv C02_alive_selfOk C02_suspect_selfOk C02_dead_selfOk n r now h

theorem C02_merge_selfOk (n : Node) (rs : List PushState) (now : Nat) (h : SelfOk n) :
    SelfOk (mergeState n rs now).1 :=
  C02_step_selfOk n (.merge rs now) h

theorem C02_fire_selfOk (n : Node) (node : String) (ca : Nat) (env : Env) (h : SelfOk n) :
    SelfOk (timerFire n node ca env).1 :=
  C02_step_selfOk n (.fire node ca env) h

theorem C02_update_selfOk (n : Node) (ad p md : Nat) (vsn : List Nat) (nt : Bool) (env : Env) (h : SelfOk n) :
    SelfOk (updateNode n ad p md vsn nt env).1 :=
  C02_alive_selfOk { n with selfInc := (n.selfInc + 1) % u32 } _ nt true env h

theorem C02_leave_selfOk (n : Node) (env : Env) (h : SelfOk n) : SelfOk (leave n env).1 :=
  C02_step_selfOk n (.leave env) h

/-- From a node that holds its own record, alive unless it has called Leave (`SelfOk`): after any sequence of
operations, in any order, a running node that has not called Leave lists itself as alive: it never records itself as
suspect, dead or left. -/
theorem C02_history (n : Node) (ops : List Op) (h : SelfOk n) :
    SelfOk (ops.foldl (fun n op => (step n op).1) n) :=
  List.foldlRecOn ops _ h fun n hn op _ => C02_step_selfOk n op hn

end Swim.Merge
