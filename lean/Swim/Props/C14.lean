import Swim.Props.C12
import Swim.Props.C13
/-!
# C14  Inbound authentication: only traffic sealed under an installed key is acted on

The AEAD is abstract (`Aead.openB`). Genuine traffic is described by a predicate `S` on `Genuine` tuples
(key, nonce, aad, plaintext, ciphertext); the integrity assumption on the primitive is the hypothesis
`Integrity`: under an installed key `openB` succeeds only on tuples in `S`.
-/
namespace Swim.Ingest
open Swim.Codec

/-- Without any assumption on the primitive: if `decryptPayload` returns a plaintext, some installed key opens
the body of the message under the receiver's associated data and the nonce carried in the message; the
plaintext acted on is that opening, with the PKCS7 padding stripped for version 0. -/
theorem C14_accept_opens (A : Aead) (keys : List Bytes) (msg aad p : Bytes)
    (h : decryptPayload A keys msg aad = .ok p) :
    ∃ k ∈ keys, ∃ plain, A.openB k (nonceOf msg) aad (bodyOf msg) = some plain ∧
      ((msg.head? = some 1 ∧ p = plain) ∨
       (msg.head? = some 0 ∧ pkcs7valid plain 16 = true ∧ p = pkcs7strip plain)) := by
  obtain ⟨w, hd⟩ | ⟨v, hhead, hv, hd⟩ := decryptPayload_cases A keys msg aad
  · rw [hd] at h; cases h
  rw [hd] at h
  obtain ⟨w, ht⟩ | ⟨k, hk, plain, hopen, hcase⟩ := tryKeys_cases A v (nonceOf msg) (bodyOf msg) aad keys
  · rw [ht] at h; cases h
  refine ⟨k, hk, plain, hopen, ?_⟩
  rcases hcase with ⟨hne, ht⟩ | ⟨he, hval, ht⟩ <;> rw [ht] at h <;> cases h
  · -- the version byte is at most 1 and not 0
    have : v = 1 := by
      rcases Nat.le_one_iff_eq_zero_or_eq_one.mp hv with h0 | h1
      · exact absurd (UInt8.toNat_inj.mp h0) hne
      · exact UInt8.toNat_inj.mp h1
    exact .inl ⟨by rw [hhead, this], rfl⟩
  · exact .inr ⟨by rw [hhead, he], hval, rfl⟩

/-- genuine traffic: what honest nodes holding the key have sealed -/
structure Genuine where
  key : Bytes
  nonce : Bytes
  aad : Bytes
  plain : Bytes
  ct : Bytes

/-- the integrity assumption on AES-GCM: under an installed key, `open` succeeds only on a
ciphertext that was produced by sealing that plaintext under the same key, nonce and AAD -/
def Integrity (A : Aead) (keys : List Bytes) (S : Genuine → Prop) : Prop :=
  ∀ k ∈ keys, ∀ n a c p, A.openB k n a c = some p → S ⟨k, n, a, p, c⟩

/-- Under the integrity assumption, whatever `decryptPayload` returns comes from a genuine sealing under an
installed key whose associated data is exactly the receiver's (its own label on packets; type‖length‖label
on streams), with the nonce and body carried in the message unmodified; what is acted on is the sealed
plaintext, for version 0 with its padding stripped. -/
theorem C14_accept_genuine (A : Aead) (keys : List Bytes) (S : Genuine → Prop) (hint : Integrity A keys S)
    (msg aad p : Bytes) (h : decryptPayload A keys msg aad = .ok p) :
    ∃ g, S g ∧ g.key ∈ keys ∧ g.aad = aad ∧ g.nonce = nonceOf msg ∧ g.ct = bodyOf msg ∧
      ((msg.head? = some 1 ∧ p = g.plain) ∨
       (msg.head? = some 0 ∧ pkcs7valid g.plain 16 = true ∧ p = pkcs7strip g.plain)) := by
  obtain ⟨k, hk, plain, hopen, hcase⟩ := C14_accept_opens A keys msg aad p h
  exact ⟨⟨k, nonceOf msg, aad, plain, bodyOf msg⟩, hint k hk _ _ _ _ hopen, hk, rfl, rfl, rfl, hcase⟩

/-- If no installed key opens the body under the receiver's associated data (foreign or removed key, other
label, modified nonce/body/tag), nothing is returned. -/
theorem C14_reject (A : Aead) (keys : List Bytes) (msg aad : Bytes)
    (hno : ∀ k ∈ keys, A.openB k (nonceOf msg) aad (bodyOf msg) = none) :
    ∀ p, decryptPayload A keys msg aad ≠ .ok p := by
  intro p h
  obtain ⟨k, hk, plain, hopen, _⟩ := C14_accept_opens A keys msg aad p h
  rw [hno k hk] at hopen; cases hopen

/-- If the version byte is the one the sender used (`huniq`), the plaintext acted on is exactly the sender's:
version 1 seals the message itself, version 0 seals the PKCS7-padded message and the receiver strips exactly
that padding. -/
theorem C14_plain_exact_partial (A : Aead) (keys : List Bytes) (msg aad p m : Bytes)
    (h : decryptPayload A keys msg aad = .ok p)
    (huniq : ∀ k ∈ keys, ∀ plain, A.openB k (nonceOf msg) aad (bodyOf msg) = some plain →
      (msg.head? = some 1 → plain = m) ∧ (msg.head? = some 0 → plain = pkcs7pad m 16)) :
    p = m := by
  obtain ⟨k, hk, plain, hopen, hcase⟩ := C14_accept_opens A keys msg aad p h
  rcases hcase with ⟨h1, hp⟩ | ⟨h0, _, hp⟩
  · rw [hp]; exact (huniq k hk plain hopen).1 h1
  · rw [hp, (huniq k hk plain hopen).2 h0]; exact (C12_pkcs7_roundtrip m).2

/-- The version byte is not covered by the authentication tag: the same nonce and body under the other
version byte are accepted with a different plaintext (known finding C14-version-byte). Witness with a toy
AEAD whose `open` returns a fixed 16-byte plaintext ending in a valid one-byte padding. -/
theorem C14_version_flip_witness :
    let plain : Bytes := List.replicate 15 7 ++ [1]
    let A : Aead := ⟨fun _ _ _ _ => some plain⟩
    let body : Bytes := List.replicate 12 0 ++ List.replicate 32 9
    decryptPayload A [[1]] ((1 : UInt8) :: body) [] = .ok plain ∧
    decryptPayload A [[1]] ((0 : UInt8) :: body) [] = .ok (List.replicate 15 7) := by
  refine ⟨rfl, rfl⟩

end Swim.Ingest
