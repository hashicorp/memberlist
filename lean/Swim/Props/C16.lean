import Swim.Model.Codec
/-!
# C16  Labels isolate logical clusters

The receiver takes off byte-exactly the label header the sender put on (`removeLabel_addLabel`); `labelGate` -
the check of `ingestPacket` / `handleConn` - lets through exactly the traffic with the receiver's own label, or
without header when the check is delegated (`SkipInboundLabelCheck`), and goes on with that own label as
associated data (`labelGate_eq_some`; for a sealed stream, `sealedStreamAdmitted_iff`).
-/
namespace Swim.Codec

/-- Adding and then removing the label header returns the original
payload and label, for every label of 1-255 bytes and every payload. -/
theorem C16_label_roundtrip (label buf : Bytes) (h1 : 1 ≤ label.length) (h2 : label.length ≤ 255) :
    removeLabel (addLabel label buf) = .ok (buf, label) := by
  have hne : label.isEmpty = false := by
    cases label with
    | nil => nomatch h1
    | cons _ _ => rfl
  have hsz : (UInt8.ofNat label.length).toNat = label.length := UInt8.toNat_ofNat_of_lt' (Nat.lt_succ_of_le h2)
  have hmark : (UInt8.ofNat Gen.c_hasLabelMsg).toNat = Gen.c_hasLabelMsg := by decide
  simp only [addLabel, hne, Bool.false_eq_true, if_false, List.cons_append, List.nil_append, removeLabel, hmark, ne_eq,
    not_true_eq_false, hsz, Nat.not_lt.mpr h1, List.length_append, Nat.not_lt.mpr (Nat.le_add_right ..), List.drop_left,
    List.take_left]

/-- without a label the packet is passed through unchanged, provided it does not itself start
with the label marker (no emitted message type does — `C16_types_below_marker`) -/
theorem C16_nolabel_roundtrip (buf : Bytes) (h : ∀ t, buf.head? = some t → t.toNat ≠ Gen.c_hasLabelMsg) :
    removeLabel (addLabel [] buf) = .ok (buf, []) := by
  simp only [addLabel, List.isEmpty_nil, ↓reduceIte, removeLabel]
  cases buf with
  | nil => rfl
  | cons t rest => simp [h t rfl]

theorem removeLabel_addLabel (label buf : Bytes) (h2 : label.length ≤ 255)
    (h : ∀ t, buf.head? = some t → t.toNat ≠ Gen.c_hasLabelMsg) :
    removeLabel (addLabel label buf) = .ok (buf, label) := by
  cases label with
  | nil => exact C16_nolabel_roundtrip buf h
  | cons a l => exact C16_label_roundtrip (a :: l) buf (Nat.succ_le_succ (Nat.zero_le _)) h2

/-- fact theorem: every message type the package defines is numerically below the label marker,
and the encryption version bytes (0, 1) are too -/
theorem C16_types_below_marker :
    [Gen.c_pingMsg, Gen.c_indirectPingMsg, Gen.c_ackRespMsg, Gen.c_suspectMsg, Gen.c_aliveMsg, Gen.c_deadMsg,
     Gen.c_pushPullMsg, Gen.c_compoundMsg, Gen.c_userMsg, Gen.c_compressMsg, Gen.c_encryptMsg, Gen.c_nackRespMsg,
     Gen.c_hasCrcMsg, Gen.c_errMsg, Gen.c_maxEncryptionVersion].all (· < Gen.c_hasLabelMsg) = true := by decide

/-- fact theorem: the message-type numbering is the protocol's (append-only, all distinct) -/
theorem C16_type_numbering :
    [Gen.c_pingMsg, Gen.c_indirectPingMsg, Gen.c_ackRespMsg, Gen.c_suspectMsg, Gen.c_aliveMsg, Gen.c_deadMsg,
     Gen.c_pushPullMsg, Gen.c_compoundMsg, Gen.c_userMsg, Gen.c_compressMsg, Gen.c_encryptMsg, Gen.c_nackRespMsg,
     Gen.c_hasCrcMsg, Gen.c_errMsg] = List.range 14 ∧ Gen.c_hasLabelMsg = 244 ∧ Gen.c_LabelMaxSize = 255 := by decide

/-- what passes the gate, and the label the receiver goes on with (the associated data of decryption):
always its own -/
theorem labelGate_eq_some {cfgLabel carried l : Bytes} {skip : Bool} :
    labelGate cfgLabel skip carried = some l ↔ l = cfgLabel ∧ (if skip then carried = [] else carried = cfgLabel) := by
  unfold labelGate
  cases skip
  · by_cases h : cfgLabel = carried
    · subst h; simp [eq_comm]
    · simp [h, Ne.symm h]
  · cases carried <;> simp [eq_comm]

theorem labelGate_eq_none {cfgLabel carried : Bytes} {skip : Bool} :
    labelGate cfgLabel skip carried = none ↔ ¬ (if skip then carried = [] else carried = cfgLabel) := by
  simp only [Option.eq_none_iff_forall_ne_some, ne_eq, labelGate_eq_some, not_and, forall_eq]

theorem labelGate_own (l : Bytes) : labelGate l false l = some l := labelGate_eq_some.mpr ⟨rfl, rfl⟩

theorem C16_gate_yields_own_label (cfgLabel carried l : Bytes) (skip : Bool)
    (h : labelGate cfgLabel skip carried = some l) : l = cfgLabel :=
  (labelGate_eq_some.mp h).1

/-- The receiver goes on past the label gate iff the carried label equals its own, or — when the inbound
check is delegated — iff no header is carried at all. -/
theorem C16_label_accept_iff (cfgLabel carried : Bytes) (skip : Bool) :
    (labelGate cfgLabel skip carried).isSome =
      (if skip then carried.isEmpty else cfgLabel == carried) := by
  rw [Bool.eq_iff_iff, Option.isSome_iff_exists]
  simp only [labelGate_eq_some, exists_eq_left]
  cases skip
  · exact eq_comm.trans beq_iff_eq.symm
  · exact List.isEmpty_iff.symm

/-- traffic for any other label is discarded (checked inbound) -/
theorem C16_other_label_dropped (cfgLabel carried : Bytes) (h : cfgLabel ≠ carried) :
    labelGate cfgLabel false carried = none :=
  labelGate_eq_none.mpr (Ne.symm h)

/-- With the inbound check delegated, a packet that still carries a header is discarded. -/
theorem C16_double_header_rejected (cfgLabel carried : Bytes) (h : carried ≠ []) :
    labelGate cfgLabel true carried = none :=
  labelGate_eq_none.mpr h

/-- `sealedStreamAdmitted` without the gate: by `labelGate_eq_some` the label the receiver goes on with is its own -/
theorem sealedStreamAdmitted_iff {cfgLabel carried aad : Bytes} {skip key : Bool} :
    sealedStreamAdmitted cfgLabel skip carried aad key = true ↔
      key = true ∧ aad = cfgLabel ∧ (if skip then carried = [] else carried = cfgLabel) := by
  unfold sealedStreamAdmitted
  cases hg : labelGate cfgLabel skip carried with
  | none => exact ⟨nofun, fun h => absurd h.2.2 (labelGate_eq_none.mp hg)⟩
  | some l =>
    obtain ⟨rfl, hc⟩ := labelGate_eq_some.mp hg
    rw [Bool.and_eq_true, beq_iff_eq]
    exact ⟨fun h => ⟨h.1, h.2.symm, hc⟩, fun h => ⟨h.1, h.2.1.symm⟩⟩

/-- A sealed stream is admitted only if it was sealed under an installed key with the receiver's *own* label as
associated data - also when the inbound header check is delegated to an outer layer (then no header may be
carried, and the associated data must still be the receiver's label). -/
theorem C14_sealed_stream_needs_own_label (cfgLabel carried aad : Bytes) (skip key : Bool)
    (h : sealedStreamAdmitted cfgLabel skip carried aad key = true) :
    key = true ∧ aad = cfgLabel ∧ (if skip then carried = [] else carried = cfgLabel) :=
  sealedStreamAdmitted_iff.mp h

/-- a sender that seals with its own label and carries it as header is admitted exactly by receivers with
that label that check it themselves (or, with no label at all, by label-less receivers) -/
theorem C09_honest_sender_admitted_iff (cfgLabel senderLabel : Bytes) (skip : Bool) :
    sealedStreamAdmitted cfgLabel skip senderLabel senderLabel true =
      (if skip then senderLabel.isEmpty && cfgLabel.isEmpty else cfgLabel == senderLabel) := by
  -- the label sealed with must be `cfgLabel`, and the header, the same label, must pass the gate: empty under `skip`
  rw [Bool.eq_iff_iff, sealedStreamAdmitted_iff]
  cases skip
  · exact ⟨fun h => beq_iff_eq.mpr h.2.1.symm, fun h => ⟨rfl, (beq_iff_eq.mp h).symm, (beq_iff_eq.mp h).symm⟩⟩
  · rw [if_pos rfl, if_pos rfl, Bool.and_eq_true, List.isEmpty_iff, List.isEmpty_iff]
    exact ⟨fun h => ⟨h.2.2, h.2.1 ▸ h.2.2⟩, fun h => ⟨rfl, h.1.trans h.2.symm, h.1⟩⟩

/-- labels that are prefixes/extensions of each other are different labels -/
example : labelGate [1, 2] false [1, 2, 3] = none ∧ labelGate [1, 2, 3] false [1, 2] = none ∧
    labelGate [1, 2] false [1, 2] = some [1, 2] := by decide

end Swim.Codec
