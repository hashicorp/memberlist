import Swim.Props.ClusterG
import Swim.Props.C04
/-!
# C04 at cluster level: no false suspicion in a healthy cluster, for every history
`Swim.Cluster.World` is any number of nodes running the merge rules of `Swim.Model.Merge` over a network that reorders,
duplicates, delays and loses claims. A *healthy* history is any sequence of cluster steps without an unanswered probe
(histories of fewer than 2^32 steps: no incarnation counter wraps)
(`C04_ack_in_time_no_suspect`: with every member responsive and packets delivered within half the probe timeout, no
probe goes unanswered).
-/
namespace Swim.Cluster
open Swim.Merge

/-! What has to be carried along is only what the statement itself says (`HInv`): everything that relates a claim to its
subject (ownership, departures) is already in the general invariant `GInv`. -/

/-- the claims that circulate in a healthy cluster -/
def Calm : Msg → Prop
  | .suspect _ => False
  | .dead c => c.frm = c.node
  | .state s => s.st = .alive ∨ s.st = .left
  | .alive _ => True

/-- what `C04_cluster_history` states, as an invariant: healthy nodes with score zero, only calm claims in flight,
every leave event about a member that called Leave -/
def HInv (w : World) : Prop :=
  (∀ n ∈ w.nodes, Healthy n ∧ n.score = 0) ∧ (∀ m ∈ w.pool, Calm m) ∧
  (∀ e ∈ w.log, ∀ nm, e.2 = Out.leave nm → HasLeft w nm)

theorem fire_noop (n : Node) (node : String) (ca : Nat) (env : Env) (h : Healthy n) :
    timerFire n node ca env = (n, []) := by
  rcases timerFire_cases n node ca env with ⟨_, e⟩ | ⟨r, hr, hs, _⟩
  · exact e
  · rcases h.1 r (lookup_mem hr) with e | e <;> rw [e] at hs <;> cases hs

theorem departure_outs {n : Node} {c : Claim} {env : Env} (hfrom : c.frm = c.node)
    (h : (deadNode n c env).2 = [] ∨ ∃ b, (deadNode n c env).2 = [.bcast c.node .dead c.node c.inc c.frm b, .leave c.node]) :
    ∀ o ∈ (deadNode n c env).2, (∀ n' src, ∀ m ∈ emit n' src o, Calm m) ∧ ∀ nm, o = Out.leave nm → nm = c.node := by
  intro o ho
  rcases h with e | ⟨b, e⟩ <;> rw [e] at ho
  · cases ho
  · simp only [List.mem_cons, List.not_mem_nil, or_false] at ho
    rcases ho with rfl | rfl
    · exact ⟨fun _ _ m hm => by rw [List.mem_singleton.mp hm]; exact hfrom, fun _ h => by cases h⟩
    · exact ⟨fun _ _ m hm => (by cases hm), fun _ h => by cases h; rfl⟩

section Acting
variable {w : World} {k : Nat} {x : String} {n : Node} (hG : GInv w k) (hH : HInv w) (hfind : nodeAt w x = some n)
include hG hH hfind

theorem act_hinv {f : Node → Node × List Out} {src : Option AliveMsg} {n' : Node} {outs : List Out}
    (hf : f n = (n', outs)) (hcfg : n'.cfg = n.cfg) (hl : n.hasLeft = true → n'.hasLeft = true)
    (h1 : Healthy n' ∧ n'.score = n.score)
    (h2 : ∀ o ∈ outs, (∀ m ∈ emit n' src o, Calm m) ∧
      ∀ nm, o = Out.leave nm → (nm = x ∧ n'.hasLeft = true) ∨ HasLeft w nm) :
    HInv (act w x f src) := by
  obtain ⟨hnodes, hpool, hlog⟩ := hH
  obtain ⟨hmem, hname⟩ := find_actor hfind
  have hin : n' ∈ (act w x f src).nodes := (mem_act_nodes hfind f src).mpr (Or.inl (by rw [hf]))
  have keep : ∀ nm, HasLeft w nm → HasLeft (act w x f src) nm := by
    intro nm ⟨n0, hn0, hnm, hl0⟩
    by_cases e : n0.cfg.self = x
    · rw [List.eq_of_nodup_map hG.1 hn0 hmem (e.trans hname.symm)] at hnm hl0
      exact ⟨n', hin, by rw [hcfg]; exact hnm, hl hl0⟩
    · exact ⟨n0, (mem_act_nodes hfind f src).mpr (Or.inr ⟨hn0, e⟩), hnm, hl0⟩
  refine ⟨fun n1 hn1 => ?_, fun m hm => ?_, fun e he nm hnm => ?_⟩
  · rcases (mem_act_nodes hfind f src).mp hn1 with rfl | ⟨h, _⟩
    · rw [hf]; exact ⟨h1.1, by rw [h1.2]; exact (hnodes n hmem).2⟩
    · exact hnodes n1 h
  · rw [act_some hfind, hf] at hm
    rcases List.mem_append.mp hm with h | h
    · exact hpool m h
    · obtain ⟨o, ho, hmo⟩ := List.mem_flatMap.mp h
      exact (h2 o ho).1 m hmo
  · rw [act_some hfind, hf] at he
    rcases List.mem_append.mp he with h | h
    · exact keep nm (hlog e h nm hnm)
    · obtain ⟨o, ho, rfl⟩ := List.mem_map.mp h
      rcases (h2 o ho).2 nm hnm with ⟨rfl, hl'⟩ | h
      · exact ⟨_, hin, by rw [hcfg]; exact hname, hl'⟩
      · exact keep nm h

theorem hquiet_like {f : Node → Node × List Out} {src : Option AliveMsg}
    {recs' : List Rec} {ts' : List Timer} {i' nn : Nat} {outs : List Out}
    (hf : f n = ({ n with recs := recs', timers := ts', selfInc := i', numNodes := nn }, outs))
    (hT : ∀ t ∈ ts', t ∈ n.timers) (hrecs : ∀ y ∈ recs', ∃ y0 ∈ n.recs, y.st = y0.st)
    (h2 : ∀ o ∈ outs, (∀ n' src, emit n' src o = []) ∧ ∀ nm, o ≠ Out.leave nm) :
    HInv (act w x f src) := by
  have hH0 := (hH.1 n (find_actor hfind).1).1
  refine act_hinv hG hH hfind hf rfl id ⟨⟨?_, List.eq_nil_of_subset_nil (hH0.2 ▸ hT)⟩, rfl⟩ ?_
  · intro y hy
    obtain ⟨y0, hy0, e⟩ := hrecs y hy
    rw [e]; exact hH0.1 y0 hy0
  · exact fun o ho => ⟨fun m hm => (by rw [(h2 o ho).1] at hm; cases hm), fun nm hnm => absurd hnm ((h2 o ho).2 nm)⟩

theorem halive_step {a : AliveMsg} {env : Env} (hg : GoodAliveG w a) :
    HInv (act w x (fun n => aliveNode n a false false env) (some a)) := by
  obtain ⟨hmem, hname⟩ := find_actor hfind
  obtain ⟨hH0, hsc⟩ := hH.1 n hmem
  by_cases hs : a.node = n.cfg.self
  · obtain ⟨me, hme, hle, heq⟩ := (named_iff hG.1 hmem hs).mp hg.1.2.2
    obtain ⟨ts', outs, e, b1, b2⟩ := alive_self_sum n a false env me hs hme hle heq
    exact hquiet_like hG hH hfind e b1 (fun y hy => ⟨y, hy, rfl⟩) b2
  · obtain ⟨_, _, _, _, e, _, _, _, a4⟩ := alive_other_sum n a false false env hs hg.1.1 hg.1.2.1
    have c := C04_alive_keeps_healthy n a false false env hH0 hs hg.1.1
    rw [e] at c
    exact act_hinv hG hH hfind e rfl id ⟨c.1, c.2.1⟩
      (fun o ho => ⟨fun m hm => by rw [(a4 o ho).1 _ m hm]; trivial, fun nm hnm => absurd hnm ((a4 o ho).2 nm)⟩)

theorem hdead_step {c : Claim} {env : Env} {src : Option AliveMsg}
    (hfrom : c.frm = c.node) (hdep : HasLeft w c.node) :
    HInv (act w x (fun n => deadNode n c env) src) := by
  obtain ⟨hmem, hname⟩ := find_actor hfind
  have hown : c.node = n.cfg.self → n.hasLeft = true := fun e => (named_iff hG.1 hmem e).mp hdep
  obtain ⟨d1, d2, d3, d4⟩ := C04_departure_keeps_healthy n c env (hH.1 n hmem).1 hown hfrom
  have d4 := departure_outs hfrom d4
  exact act_hinv (n' := (deadNode n c env).1) (outs := (deadNode n c env).2) hG hH hfind rfl (dead_cfg n c env)
    (fun h => d3.trans h) ⟨d1, d2⟩
    (fun o ho => ⟨(d4 o ho).1 _ _, fun nm hnm => by rw [(d4 o ho).2 nm hnm]; exact Or.inr hdep⟩)

theorem hannounce_step {addr port md : Nat} {vsn : List Nat} {env : Env} (hk : k + 1 < u32) :
    HInv (act w x (announce addr port md vsn env) (some (announceSrc addr port md vsn n))) := by
  obtain ⟨hmem, hname, _, hsi, hsf, _, _⟩ := actor_facts hG hfind
  obtain ⟨⟨hr, ht⟩, hsc⟩ := hH.1 n hmem
  rcases announce_cases n addr port md vsn env (Nat.lt_of_le_of_lt (Nat.succ_le_succ hsi) hk) (fun me hme => ⟨(hsf me hme).1, (hsf me hme).2.2.1⟩) with
    ⟨i', e, _⟩ | ⟨_, R, ts', nn, outs, ⟨recs', e, hrecs⟩, ⟨r1, _⟩, r6, r7⟩
  · exact act_hinv hG hH hfind e rfl id ⟨⟨hr, ht⟩, rfl⟩ (fun _ ho => nomatch ho)
  · refine act_hinv hG hH hfind e rfl id ⟨⟨?_, List.eq_nil_of_subset_nil (ht ▸ r6)⟩, rfl⟩
      (fun o ho => ⟨fun m hm => by rw [(r7 o ho).1 _ m hm]; trivial, fun nm hnm => absurd hnm ((r7 o ho).2 nm)⟩)
    intro y hy
    have : y ∈ n.recs ∨ y = R := by
      rcases hrecs with ⟨_, e'⟩ | ⟨_, e'⟩ <;> rw [e'] at hy
      · exact mem_setRec hy
      · simpa using hy
    rcases this with h | rfl
    · exact hr y h
    · exact Or.inl r1

theorem hleave_step {env : Env} : HInv (act w x (fun n => leave n env) none) := by
  obtain ⟨hmem, hname⟩ := find_actor hfind
  obtain ⟨hH0, hsc⟩ := hH.1 n hmem
  rcases leave_cases n env with ⟨_, e⟩ | ⟨_, e⟩ | ⟨me, hme, _, e⟩
  · exact act_hinv hG hH hfind e rfl id ⟨hH0, rfl⟩ (fun _ ho => nomatch ho)
  · exact act_hinv hG hH hfind e rfl (fun _ => rfl) ⟨hH0, rfl⟩ (fun _ ho => nomatch ho)
  · obtain ⟨d1, d2, d3, d4⟩ := C04_departure_keeps_healthy { n with hasLeft := true }
      { inc := me.inc, node := n.cfg.self, frm := n.cfg.self } env hH0 (fun _ => rfl) rfl
    have d4 := departure_outs rfl d4
    exact act_hinv (n' := (deadNode _ _ env).1) (outs := (deadNode _ _ env).2) hG hH hfind e (dead_cfg _ _ _)
      (fun _ => d3) ⟨d1, d2⟩ (fun o ho => ⟨(d4 o ho).1 _ _,
      fun nm hnm => Or.inl ⟨((d4 o ho).2 nm hnm).trans hname, d3⟩⟩)

end Acting

theorem hsnapshot_step {w : World} {n : Node} (hH : HInv w) (hmem : n ∈ w.nodes) :
    HInv { w with pool := w.pool ++ n.recs.map (fun r => Msg.state (stateOfRec r)) } := by
  refine ⟨hH.1, ?_, hH.2.2⟩
  intro m hm
  rcases List.mem_append.mp hm with h | h
  · exact hH.2.1 m h
  · obtain ⟨r, hr, rfl⟩ := List.mem_map.mp h
    exact (hH.1 n hmem).1.1 r hr

theorem hstep_inv {w : World} {k : Nat} (op : COp) (hG : GInv w k) (hH : HInv w) (hop : op.healthy = true)
    (hk : k + 1 < u32) : HInv (w.step op) := by
  -- timers, the reaper and ageing change no record's state and send nothing
  have quiet : ∀ {x f n recs' nn}, nodeAt w x = some n → f n = ({ n with recs := recs', numNodes := nn }, []) →
      (∀ y ∈ recs', ∃ y0 ∈ n.recs, y.st = y0.st) → HInv (act w x f none) :=
    fun hf e h => hquiet_like hG hH hf e (fun _ h => h) h (fun _ ho => nomatch ho)
  refine World.step_ind (P := fun op w' => op.healthy = true → HInv w') (h0 := fun _ _ => hH)
    (deliver := fun x _ env m n hm hf _ => ?_)
    (snapshot := fun _ n hf _ => hsnapshot_step hH (find_actor hf).1)
    (announce := fun _ _ _ _ _ _ _ hf _ => hannounce_step hG hH hf hk)
    (leave := fun _ _ _ hf _ => hleave_step hG hH hf)
    (fire := fun _ node ca env n hf _ =>
      quiet hf (fire_noop n node ca env (hH.1 n (find_actor hf).1).1) (fun y hy => ⟨y, hy, rfl⟩))
    (reap := fun _ n hf _ => quiet hf (show _ = (reap n, []) from rfl) (fun y hy => ⟨y, (List.mem_filter.mp hy).1, rfl⟩))
    (age := fun _ name n hf _ => quiet hf (show _ = (ageRec n name, []) from rfl) (fun y hy => ?_))
    (probeFail := fun _ _ _ _ _ h => nomatch h) op hop
  · have hb : GBenign w m := hG.2.2 m hm
    have hc : Calm m := hH.2.1 m hm
    cases m with
    | alive a => exact halive_step hG hH hf hb
    | suspect c => exact absurd hc id
    | dead c => exact hdead_step hG hH hf hc (hb.2 hc).hasLeft
    | state s =>
      rcases hc with e | e
      · rw [receive_state_alive s env e]
        simp only [srcOf, e, ↓reduceIte]
        exact halive_step hG hH hf (hb.2.1 e)
      · rw [receive_state_left s env e]
        exact hdead_step hG hH hf rfl (hb.2.2 e).hasLeft
  · obtain ⟨y0, hy0, rfl⟩ := mem_ageRec hy
    exact ⟨y0, hy0, rfl⟩

theorem hfresh_inv {w : World} (h : Fresh w) : HInv w := by
  obtain ⟨_, h2, h3, h4⟩ := h
  refine ⟨?_, by rw [h3]; simp, by rw [h4]; simp⟩
  intro n hn
  obtain ⟨a, b, _, _, e⟩ := h2 n hn
  exact ⟨⟨by rw [a]; simp, b⟩, e⟩

theorem hrun_inv (ops : List COp) : ∀ (w : World) (k : Nat), GInv w k → HInv w → (∀ op ∈ ops, op.healthy = true) →
    k + ops.length < u32 → HInv (w.run ops) :=
  grun_ind (fun _ _ op hG hk hop hH => hstep_inv op hG hH hop hk) ops

/-- From a cluster that has not started, after any healthy history (announcements, deliveries of any claim in flight in
any order and multiplicity, state exchanges, leaves, reaping, ageing, timer callbacks; any number of nodes): every node
holds only alive or left records, no suspicion timer and health score zero; no suspect claim and no dead claim not signed
by its subject is in the pool, every state entry there is alive or left; leave events only for members that called Leave. -/
theorem C04_cluster_history (w0 : World) (ops : List COp) (hfresh : Fresh w0)
    (hops : ∀ op ∈ ops, op.healthy = true) (hlen : ops.length < u32) :
    (∀ n ∈ (w0.run ops).nodes, (∀ r ∈ n.recs, r.st = .alive ∨ r.st = .left) ∧ n.timers = [] ∧ n.score = 0) ∧
    (∀ m ∈ (w0.run ops).pool, match m with
      | .suspect _ => False
      | .dead c => c.frm = c.node
      | .state s => s.st = .alive ∨ s.st = .left
      | .alive _ => True) ∧
    (∀ e ∈ (w0.run ops).log, ∀ nm, e.2 = Out.leave nm →
      ∃ n ∈ (w0.run ops).nodes, n.cfg.self = nm ∧ n.hasLeft = true) := by
  obtain ⟨hn, hp, hl⟩ := hrun_inv ops w0 0 (gfresh_inv w0 hfresh) (hfresh_inv hfresh) hops (by rwa [Nat.zero_add])
  refine ⟨fun n hmem => ⟨(hn n hmem).1.1, (hn n hmem).1.2, (hn n hmem).2⟩, ?_, hl⟩
  intro m hm
  have := hp m hm
  cases m <;> exact this

/-- the part about the nodes, for every prefix of the history: at every moment, not only at the end -/
theorem C04_cluster_always (w0 : World) (ops : List COp) (hfresh : Fresh w0)
    (hops : ∀ op ∈ ops, op.healthy = true) (hlen : ops.length < u32) (j : Nat) :
    ∀ n ∈ (w0.run (ops.take j)).nodes, (∀ r ∈ n.recs, r.st = .alive ∨ r.st = .left) ∧ n.timers = [] ∧ n.score = 0 :=
  (C04_cluster_history w0 (ops.take j) hfresh (fun op h => hops op (List.mem_of_mem_take h))
    (Nat.lt_of_le_of_lt (List.length_take_le' j ops) hlen)).1

/-! ### Non-vacuity: a three-node history with joins, an update, an exchange and a leave -/

def demoCfg (s : String) : Cfg :=
  { self := s, reclaim := false, hasAliveDelegate := false, hasConflictDelegate := false, awarenessMax := 8, suspicionK := 2 }

def demoWorld : World := { nodes := [{ cfg := demoCfg "a" }, { cfg := demoCfg "b" }, { cfg := demoCfg "c" }] }

def demoEnv (t : Nat) : Env := { now := t, ipAllowed := true, delegateOk := true, offset := 0 }

def demoOps : List COp :=
  [ .announce "a" 1 7946 10 [1, 5, 2, 0, 0, 0] (demoEnv 1),
    .announce "b" 2 7946 20 [1, 5, 2, 0, 0, 0] (demoEnv 2),
    .announce "c" 3 7946 30 [1, 5, 2, 0, 0, 0] (demoEnv 3),
    .deliver "b" 0 (demoEnv 4), .deliver "a" 1 (demoEnv 5), .deliver "c" 0 (demoEnv 6),
    .snapshot "b", .deliver "c" 4 (demoEnv 7), .deliver "c" 5 (demoEnv 8),
    .announce "a" 0 0 11 [] (demoEnv 9), .deliver "b" 9 (demoEnv 10), .deliver "c" 9 (demoEnv 11), .deliver "a" 6 (demoEnv 11),
    .deliver "a" 2 (demoEnv 11), .deliver "b" 2 (demoEnv 11),
    .leave "c" (demoEnv 12), .deliver "a" 14 (demoEnv 13), .deliver "b" 14 (demoEnv 14), .deliver "c" 14 (demoEnv 14),
    .age "a" "c", .reap "a" ]

theorem demo_fresh : Fresh demoWorld := by
  refine ⟨by decide, ?_, rfl, rfl⟩
  intro n hn
  simp only [demoWorld, List.mem_cons, List.not_mem_nil, or_false] at hn
  rcases hn with rfl | rfl | rfl <;> exact ⟨rfl, rfl, rfl, rfl, rfl⟩

theorem demo_healthy : ∀ op ∈ demoOps, op.healthy = true := by decide

/-- the demo history exchanges claims: 17 in flight; `b` and `c` have learnt of the update of `a`, `a` and `b` of the
departure of `c`, and `a` has already reaped `c` -/
example : (demoWorld.run demoOps).pool.length = 17 ∧
    (demoWorld.run demoOps).nodes.map (fun n => (n.cfg.self, n.recs.map (fun r => (r.name, r.inc, r.st, r.md)))) =
      [("a", [("a", 2, .alive, 11), ("b", 1, .alive, 20)]),
       ("b", [("b", 1, .alive, 20), ("a", 2, .alive, 11), ("c", 1, .left, 30)]),
       ("c", [("c", 1, .left, 30), ("a", 2, .alive, 11), ("b", 1, .alive, 20)])] := by decide

end Swim.Cluster
