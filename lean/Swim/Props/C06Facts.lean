import Swim.Gen.Facts
/-!
# C06 / C03: the suspicion timeout is started in a goroutine of its own

`suspicion.Confirm` is called from `suspectNode` with the membership lock held, and the timeout
function starts by taking that lock. When a late confirmation finds no time remaining, the timeout
must therefore be started in a goroutine of its own (suspicion.go: `go s.timeoutFn(...)`); called
inline it deadlocks the node, which then never declares the member dead.
-/
namespace Swim.Gen

/-- regenerated from the source on every run -/
theorem C06_timeout_in_own_goroutine : ("suspicion.Confirm", "s.timeoutFn") ∈ goSites := by simp [goSites]

end Swim.Gen
