import Swim.Model.Keyring
import Swim.Lemmas.List
/-!
# C17  Keyring integrity and zero-downtime key rotation

Theorems over the keyring model (`Swim.Model.Keyring`), for every key, every ring and every operation sequence / every
interleaving of rotation steps. Everything rests on three facts about one API call `step ring op`, each read off its four
outcomes (`step_cases`): it keeps `Inv` (`step_inv`), it moves the head only by a successful `UseKey`
(`C17_primary_stable`), and it loses a key only by `RemoveKey` of that key (`step_mem`). A rotation step is such a call
at one node (`okOr_*`).
-/
namespace Swim.Keyring

theorem mem_install {keys : List Key} {p k : Key} :
    k ∈ install keys p ↔ k = p ∨ (k ∈ keys ∧ k ≠ p) := by
  simp [install, List.mem_filter]

theorem mem_install_of_mem {keys : List Key} {p k : Key} (h : k ∈ keys) : k ∈ install keys p :=
  mem_install.mpr (if e : k = p then .inl e else .inr ⟨h, e⟩)

theorem Inv.sublist {l l' : List Key} (h : Inv l) (hs : l'.Sublist l) : Inv l' :=
  ⟨h.1.sublist hs, fun k hk => h.2 k (hs.subset hk)⟩

theorem Inv.concat {ring : List Key} {k : Key} (h : Inv ring) (hv : validLen k = true) (hk : k ∉ ring) :
    Inv (ring ++ [k]) :=
  ⟨List.Nodup.concat h.1 hk,
    fun x hx => (List.mem_append.mp hx).elim (h.2 x) fun hx => List.mem_singleton.mp hx ▸ hv⟩

theorem install_nodup {keys : List Key} {p : Key} (h : keys.Nodup) : (install keys p).Nodup :=
  List.nodup_cons.mpr ⟨by simp, h.filter _⟩

theorem install_inv {keys : List Key} {p : Key} (h : Inv keys) (hp : validLen p = true) :
    Inv (install keys p) := by
  refine ⟨install_nodup h.1, fun k hk => ?_⟩
  rcases mem_install.mp hk with rfl | ⟨hk, _⟩
  · exact hp
  · exact h.2 k hk

theorem install_head {p : Key} {rest : List Key} (h : (p :: rest).Nodup) :
    install (p :: rest) p = p :: rest := by
  have hne : ∀ a ∈ rest, a ≠ p := fun a ha (e : a = p) => (List.nodup_cons.mp h).1 (e ▸ ha)
  simpa [install] using hne

theorem primary_mem {r : List Key} {k : Key} (h : primary r = some k) : k ∈ r :=
  List.mem_of_mem_head? h

theorem exists_primary {r : List Key} (h : r ≠ []) : ∃ p, primary r = some p := by
  cases r with
  | nil => exact absurd rfl h
  | cons p _ => exact ⟨p, rfl⟩

/-- what `step` does, without the error plumbing: it leaves the ring alone, or it is one of three re-installations -/
theorem step_cases (ring : List Key) (op : Op) :
    (step ring op).1 = ring ∨
    (∃ k, op = .add k ∧ validLen k = true ∧ k ∉ ring ∧
      (step ring op).1 = install (ring ++ [k]) ((primary ring).getD k)) ∨
    (∃ k, op = .use k ∧ k ∈ ring ∧ (step ring op).1 = install ring k) ∨
    (∃ k p rest, op = .remove k ∧ ring = p :: rest ∧ k ≠ p ∧ k ∈ rest ∧
      (step ring op).1 = install (p :: rest.erase k) p) := by
  cases op with
  | add k =>
    by_cases hv : validLen k = false
    · exact .inl (by simp [step, addKey, hv])
    · by_cases hk : k ∈ ring
      · exact .inl (by simp [step, addKey, hv, hk])
      · exact .inr (.inl ⟨k, rfl, by simpa using hv, hk, by simp [step, addKey, hv, hk]⟩)
  | use k =>
    by_cases hk : k ∈ ring
    · exact .inr (.inr (.inl ⟨k, rfl, hk, by simp [step, useKey, hk]⟩))
    · exact .inl (by simp [step, useKey, hk])
  | remove k =>
    cases ring with
    | nil => exact .inl rfl
    | cons p rest =>
      by_cases hp : k = p
      · exact .inl (by simp [step, removeKey, hp])
      · by_cases hk : k ∈ rest
        · exact .inr (.inr (.inr ⟨k, p, rest, rfl, rfl, hp, hk, by simp [step, removeKey, hp, hk]⟩))
        · exact .inl (by simp [step, removeKey, hp, hk])
  | getKeys => exact .inl rfl
  | getPrimary => exact .inl rfl

theorem step_inv (ring : List Key) (op : Op) (h : Inv ring) : Inv (step ring op).1 := by
  rcases step_cases ring op with e | ⟨k, -, hv, hk, e⟩ | ⟨k, -, hk, e⟩ | ⟨k, p, rest, -, rfl, -, -, e⟩ <;> rw [e]
  · exact h
  · refine install_inv (h.concat hv hk) ?_
    cases ring with
    | nil => exact hv
    | cons p rest => exact h.2 p List.mem_cons_self
  · exact install_inv h (h.2 k hk)
  · exact install_inv (h.sublist (List.erase_sublist.cons_cons _)) (h.2 _ List.mem_cons_self)

/-- a key leaves the ring only by `RemoveKey` of that key, and not if it is the primary -/
theorem step_mem {ring : List Key} {op : Op} {x : Key} (hx : x ∈ ring)
    (hop : op = .remove x → primary ring = some x) : x ∈ (step ring op).1 := by
  rcases step_cases ring op with e | ⟨k, -, -, -, e⟩ | ⟨k, -, -, e⟩ | ⟨k, p, rest, rfl, rfl, hne, -, e⟩ <;> rw [e]
  · exact hx
  · exact mem_install_of_mem (List.mem_append_left _ hx)
  · exact mem_install_of_mem hx
  · refine mem_install_of_mem ?_
    have hxk : x ≠ k := fun e => hne (Option.some.inj (hop (e ▸ rfl)) ▸ e.symm)
    rcases List.mem_cons.mp hx with rfl | hx
    · exact List.mem_cons_self
    · exact List.mem_cons_of_mem _ ((List.mem_erase_of_ne hxk).mpr hx)

/-- The primary changes only through a successful `UseKey`, and then becomes exactly the requested (installed) key. -/
theorem C17_primary_stable (ring : List Key) (op : Op) (p : Key)
    (hp : primary ring = some p) :
    primary (step ring op).1 = some p ∨
      (∃ k, op = .use k ∧ k ∈ ring ∧ primary (step ring op).1 = some k) := by
  rcases step_cases ring op with e | ⟨k, -, -, -, e⟩ | ⟨k, rfl, hk, e⟩ | ⟨k, q, rest, -, rfl, -, -, e⟩ <;> rw [e]
  · exact .inl hp
  · exact .inl (by rw [hp]; rfl)
  · exact .inr ⟨k, rfl, hk, rfl⟩
  · exact .inl hp

/-- No duplicates and only valid-length keys after any sequence of calls on a ring that satisfied the invariant. -/
theorem C17_ring_inv (ring : List Key) (ops : List Op) (h : Inv ring) : Inv (run ring ops) :=
  List.foldlRecOn (motive := Inv) ops _ h fun r h op _ => step_inv r op h

/-- A non-empty ring never becomes empty, so there is always a primary. -/
theorem C17_nonempty_stays (ring : List Key) (op : Op) (h : ring ≠ []) : (step ring op).1 ≠ [] := by
  obtain ⟨p, hp⟩ := exists_primary h
  intro e
  rcases C17_primary_stable ring op p hp with h | ⟨k, _, _, h⟩ <;> simp [e, primary] at h

/-- `RemoveKey` of the primary is refused and changes nothing. -/
theorem C17_remove_primary_refused (p : Key) (rest : List Key) :
    removeKey (p :: rest) p = .error .removePrimary ∧ (step (p :: rest) (.remove p)).1 = p :: rest := by
  simp [removeKey, step]

/-- `UseKey` of a key that is not installed is refused and changes nothing. -/
theorem C17_use_requires_installed (ring : List Key) (k : Key) (hk : k ∉ ring) :
    useKey ring k = .error .notInRing ∧ (step ring (.use k)).1 = ring := by
  simp [useKey, step, hk]

/-- `AddKey` refuses a key of invalid length. -/
theorem C17_add_invalid_refused (ring : List Key) (k : Key) (hk : validLen k = false) :
    addKey ring k = .error .keySize := by
  simp [addKey, hk]

/-- `RemoveKey` on an empty ring is a no-op without error (fixed code; the pinned code
indexed `keys[0]` and panicked: known_findings.json `fixed:` C17 065f0e0). -/
theorem C17_remove_empty_total (k : Key) : removeKey [] k = .ok [] := rfl

theorem addAll_ok {ring r' : List Key} {ks : List Key} (hs : addAll ring ks = .ok r') :
    r' = run ring (ks.map .add) ∧ ∀ k ∈ ks, validLen k = true := by
  induction ks generalizing ring with
  | nil => cases hs; exact ⟨rfl, by simp⟩
  | cons k ks ih =>
    simp only [addAll] at hs
    split at hs
    · cases hs
    · rename_i r hr
      have hv : validLen k = true := by
        cases h : validLen k
        · rw [C17_add_invalid_refused ring k h] at hr; cases hr
        · rfl
      obtain ⟨e, hks⟩ := ih hs
      exact ⟨by simpa [run, step, hr] using e, List.forall_mem_cons.mpr ⟨hv, hks⟩⟩

theorem run_add_primary {ring : List Key} {p : Key} (ks : List Key) (hp : primary ring = some p) :
    primary (run ring (ks.map .add)) = some p := by
  induction ks generalizing ring with
  | nil => exact hp
  | cons k ks ih =>
    rcases C17_primary_stable ring (.add k) p hp with h | ⟨_, e, _⟩
    · exact ih h
    · cases e

/-- `NewKeyring` yields an invariant ring whenever it succeeds. -/
theorem C17_new_inv (keys : List Key) (p : Key) (r : List Key)
    (hs : newKeyring keys p = .ok r) : Inv r := by
  have h0 : Inv [] := ⟨List.nodup_nil, by simp⟩
  unfold newKeyring at hs
  split at hs
  · cases hs; exact h0
  · split at hs
    · cases hs
    · exact (addAll_ok hs).1 ▸ C17_ring_inv _ _ h0

/-- `NewKeyring` with a non-empty primary puts exactly that key first. -/
theorem C17_new_primary_first (keys : List Key) (p : Key) (r : List Key) (hp : p ≠ [])
    (hs : newKeyring keys p = .ok r) : primary r = some p := by
  have hpe : p.isEmpty = false := by simpa using hp
  simp only [newKeyring, hpe, Bool.and_false, Bool.false_eq_true, ↓reduceIte] at hs
  obtain ⟨rfl, hv⟩ := addAll_ok hs
  -- the first call puts `p` into the empty ring, the others leave the head alone
  refine run_add_primary keys (ring := (step [] (.add p)).1) ?_
  simp [step, addKey, hv p, install, primary]

/-- Invariant of a rotation from `old` to `new`: every primary is `old` or `new`; if somebody still uses `old`,
everybody still has `old`; if somebody already uses `new`, everybody has `new`. -/
def RotInv (old new : Key) (c : Cluster) : Prop :=
  (∀ r ∈ c, Inv r) ∧
  (∀ r ∈ c, primary r = some old ∨ primary r = some new) ∧
  ((∃ r ∈ c, primary r = some old) → ∀ r ∈ c, old ∈ r) ∧
  ((∃ r ∈ c, primary r = some new) → ∀ r ∈ c, new ∈ r)

/-- the last two clauses of `RotInv` say `canTalk` for the only two keys that can be primary -/
theorem rotInv_iff {old new : Key} {c : Cluster} :
    RotInv old new c ↔
      (∀ r ∈ c, Inv r) ∧ (∀ r ∈ c, primary r = some old ∨ primary r = some new) ∧ canTalk c := by
  refine and_congr_right fun _ => and_congr_right fun hprim => ⟨fun h s hs r hr k hk => ?_,
    fun h => ⟨fun ⟨s, hs, hk⟩ r hr => h s hs r hr _ hk, fun ⟨s, hs, hk⟩ r hr => h s hs r hr _ hk⟩⟩
  rcases hprim s hs with ho | hn
  · exact Option.some.inj (ho ▸ hk) ▸ h.1 ⟨s, hs, ho⟩ r hr
  · exact Option.some.inj (hn ▸ hk) ▸ h.2 ⟨s, hs, hn⟩ r hr

theorem RotInv.canTalk {old new : Key} {c : Cluster} (h : RotInv old new c) : canTalk c :=
  (rotInv_iff.mp h).2.2

theorem rotInv_init (old new : Key) (n : Nat) (hv : validLen old = true) :
    RotInv old new (List.replicate n [old]) := by
  have hr : ∀ r ∈ List.replicate n [old], r = [old] := fun r hr => List.eq_of_mem_replicate hr
  refine rotInv_iff.mpr ⟨fun r h => ?_, fun r h => ?_, fun s hs r h k hk => ?_⟩
  · rw [hr r h]; exact ⟨by simp, by simpa using hv⟩
  · rw [hr r h]; exact .inl rfl
  · rw [hr s hs] at hk; cases hk; rw [hr r h]; simp

theorem mem_modifyAt {c : Cluster} {i : Nat} {f : List Key → List Key} {r : List Key}
    (h : r ∈ modifyAt c i f) : r ∈ c ∨ ∃ r0 ∈ c, r = f r0 := by
  simp only [modifyAt, List.mem_mapIdx] at h
  obtain ⟨j, hj, rfl⟩ := h
  split
  · right; exact ⟨c[j], List.getElem_mem hj, rfl⟩
  · left; exact List.getElem_mem hj

theorem forall_modifyAt {c : Cluster} {i : Nat} {f : List Key → List Key} {Q : List Key → Prop}
    (h1 : ∀ r ∈ c, Q r) (h2 : ∀ r ∈ c, Q (f r)) : ∀ r ∈ modifyAt c i f, Q r := by
  intro r hr
  rcases mem_modifyAt hr with h | ⟨r0, h0, rfl⟩
  · exact h1 r h
  · exact h2 r0 h0

/-- Everybody can still talk to everybody after an API call at one node, provided every ring is non-empty, `UseKey k` is
called only when every node holds `k` and `RemoveKey k` only when `k` is no node's primary (or every node's: then the
call is refused). Any number of keys, any order of calls. -/
theorem canTalk_call {c : Cluster} (i : Nat) (op : Op) (h : canTalk c) (hne : ∀ r ∈ c, r ≠ [])
    (huse : ∀ k, op = .use k → ∀ r ∈ c, k ∈ r)
    (hrem : ∀ k, op = .remove k → ∀ s ∈ c, primary s = some k → ∀ r ∈ c, primary r = some k) :
    canTalk (modifyAt c i fun r => (step r op).1) := by
  -- a key that is some node's primary before or after the call is held by every node before and after it
  have key : ∀ s ∈ c, ∀ k, primary s = some k ∨ primary (step s op).1 = some k →
      ∀ r ∈ c, k ∈ r ∧ k ∈ (step r op).1 := by
    intro s hs k hk r hr
    obtain ⟨p, hp⟩ := exists_primary (hne s hs)
    have hk : primary s = some k ∨ op = .use k := by
      rcases hk with hk | hk
      · exact .inl hk
      · rcases C17_primary_stable s op p hp with h1 | ⟨k', e, _, h1⟩
        · exact .inl (hp.trans (h1.symm.trans hk))
        · exact .inr (e.trans (congrArg _ (Option.some.inj (h1.symm.trans hk))))
    rcases hk with hk | hk
    · exact ⟨h s hs r hr k hk, step_mem (h s hs r hr k hk) fun e => hrem k e s hs hk r hr⟩
    · exact ⟨huse k hk r hr, step_mem (huse k hk r hr) fun e => Op.noConfusion (hk.symm.trans e)⟩
  intro s' hs' r' hr' k hk
  rcases mem_modifyAt hs' with hs | ⟨s, hs, rfl⟩ <;> rcases mem_modifyAt hr' with hr | ⟨r, hr, rfl⟩
  · exact (key s' hs k (.inl hk) r' hr).1
  · exact (key s' hs k (.inl hk) r hr).2
  · exact (key s hs k (.inr hk) r' hr).1
  · exact (key s hs k (.inr hk) r hr).2

theorem RotInv.call {old new : Key} {c : Cluster} (h : RotInv old new c) (i : Nat) (op : Op)
    (huse : ∀ k, op = .use k → k = new ∧ ∀ r ∈ c, k ∈ r)
    (hrem : ∀ k, op = .remove k → ∀ s ∈ c, primary s = some k → ∀ r ∈ c, primary r = some k) :
    RotInv old new (modifyAt c i fun r => (step r op).1) := by
  obtain ⟨hinv, hprim, htalk⟩ := rotInv_iff.mp h
  have hne : ∀ r ∈ c, r ≠ [] := fun r hr e => by cases e; cases hprim [] hr <;> contradiction
  refine rotInv_iff.mpr ⟨forall_modifyAt hinv fun r hr => step_inv r op (hinv r hr),
    forall_modifyAt hprim fun r hr => ?_, canTalk_call i op htalk hne (fun k e => (huse k e).2) hrem⟩
  have keep : ∀ p, primary r = some p → primary (step r op).1 = some p ∨ primary (step r op).1 = some new :=
    fun p hp => (C17_primary_stable r op p hp).imp_right fun ⟨k, e, _, h1⟩ => (huse k e).1 ▸ h1
  exact (hprim r hr).elim (keep old) fun hp => (keep new hp).elim .inr .inr

theorem allHave_iff {c : Cluster} {k : Key} : allHave c k = true ↔ ∀ r ∈ c, k ∈ r := by
  simp [allHave]

theorem allPrimary_iff {c : Cluster} {k : Key} : allPrimary c k = true ↔ ∀ r ∈ c, primary r = some k := by
  simp [allPrimary]

theorem okOr_addKey (r : List Key) (k : Key) : okOr r (addKey r k) = (step r (.add k)).1 := by
  simp only [step]; cases addKey r k <;> rfl

theorem okOr_useKey (r : List Key) (k : Key) : okOr r (useKey r k) = (step r (.use k)).1 := by
  simp only [step]; cases useKey r k <;> rfl

theorem okOr_removeKey (r : List Key) (k : Key) : okOr r (removeKey r k) = (step r (.remove k)).1 := by
  simp only [step]; cases removeKey r k <;> rfl

theorem rotStep_inv (old new : Key) (c : Cluster) (st : RotStep) (h : RotInv old new c) :
    RotInv old new (rotStep old new c st) := by
  cases st with
  | install i =>
    simp only [rotStep, okOr_addKey]
    exact h.call i _ (fun _ e => nomatch e) (fun _ e => nomatch e)
  | use i =>
    simp only [rotStep, okOr_useKey]
    split
    · rename_i hg
      exact h.call i _ (fun k e => by cases e; exact ⟨rfl, allHave_iff.mp hg⟩) (fun _ e => nomatch e)
    · exact h
  | remove i =>
    simp only [rotStep, okOr_removeKey]
    split
    · rename_i hg
      have hall := allPrimary_iff.mp hg
      refine h.call i _ (fun _ e => nomatch e) fun k e s hs hk r hr => ?_
      rw [hall r hr, ← hall s hs, hk]
    · exact h

/-- From any cluster in the rotation invariant (`rotInv_init`: any number of nodes, each holding just `old`), after any
sequence of install / use / remove steps at any nodes - a `use` or `remove` attempted before its phase barrier is met
does nothing (`rotStep`) - every sender's primary key is installed at every receiver, and the invariant holds again;
so also after every step on the way (`C17_rotation_safe_prefix`). -/
theorem C17_rotation_safe (old new : Key) (c : Cluster) (steps : List RotStep)
    (h : RotInv old new c) :
    canTalk (steps.foldl (rotStep old new) c) ∧ RotInv old new (steps.foldl (rotStep old new) c) :=
  have hr := List.foldlRecOn (motive := RotInv old new) steps _ h fun c h st _ => rotStep_inv old new c st h
  ⟨hr.canTalk, hr⟩

/-- every intermediate cluster of a rotation run can talk -/
theorem C17_rotation_safe_prefix (old new : Key) (c : Cluster) (steps : List RotStep)
    (h : RotInv old new c) (n : Nat) :
    canTalk ((steps.take n).foldl (rotStep old new) c) :=
  (C17_rotation_safe old new c (steps.take n) h).1

/-- non-vacuity: a concrete 3-node rotation run ends with every ring `[new]`. -/
example :
    let old : Key := List.replicate 16 1
    let new : Key := List.replicate 16 2
    let c : Cluster := List.replicate 3 [old]
    (List.foldl (rotStep old new) c
      [.install 2, .install 0, .install 1, .use 1, .use 0, .use 2, .remove 0, .remove 2, .remove 1])
      = List.replicate 3 [new] := by decide

end Swim.Keyring
