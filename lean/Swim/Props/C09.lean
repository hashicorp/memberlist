import Swim.Model.Verify
import Swim.Props.C07
/-!
# C09  Join and push/pull are mutual, all-or-nothing, vetoable; hearsay never kills

`verifyProtocol` is handled through `Within r a b c d` (what the range `r` admits lies in a box): the fold step of an
alive node puts the range within that node's box, every other step keeps it there, so the final `range` is within
the box of every alive node (`range_covers_remote`, `range_covers_local`). The `Swim.Merge` part at the end reads the
merge of one push/pull entry off `mergeOne_eq` and the case lemmas of `Lemmas/Rules`.
-/
namespace Swim.Verify

/-- the versions the range admits - protocol `[maxpmin, minpmax]`, delegate `[maxdmin, mindmax]` - lie in `[a, b]`,
respectively `[c, d]` -/
def Within (r : Range) (a b c d : Nat) : Prop :=
  a ≤ r.maxpmin ∧ r.minpmax ≤ b ∧ c ≤ r.maxdmin ∧ r.mindmax ≤ d

/-- both fold steps either leave the range alone or intersect it with a node's box -/
def Range.meet (r : Range) (a b c d : Nat) : Range :=
  ⟨max r.maxpmin a, min r.minpmax b, max r.maxdmin c, min r.mindmax d⟩

theorem Range.meet_within (r : Range) (a b c d : Nat) : Within (r.meet a b c d) a b c d :=
  ⟨Nat.le_max_right .., Nat.min_le_right .., Nat.le_max_right .., Nat.min_le_right ..⟩

theorem Within.meet {r a b c d} (h : Within r a b c d) (a' b' c' d' : Nat) : Within (r.meet a' b' c' d') a b c d :=
  ⟨Nat.le_trans h.1 (Nat.le_max_left ..), Nat.le_trans (Nat.min_le_left ..) h.2.1,
   Nat.le_trans h.2.2.1 (Nat.le_max_left ..), Nat.le_trans (Nat.min_le_left ..) h.2.2.2⟩

theorem Within.after_remote {r a b c d} (h : Within r a b c d) (x : Remote) : Within (foldRemote r x) a b c d := by
  unfold foldRemote
  split
  · exact h
  · split
    · exact h
    · exact h.meet ..

theorem Within.after_local {r a b c d} (h : Within r a b c d) (x : Local) : Within (foldLocal r x) a b c d := by
  unfold foldLocal
  split
  · exact h
  · exact h.meet ..

theorem within_foldRemote (r : Range) {x : Remote} (hal : x.alive = true) (hlen : 5 ≤ x.vsn.length) :
    Within (foldRemote r x) (x.vsn.getD 0 0) (x.vsn.getD 1 0) (x.vsn.getD 3 0) (x.vsn.getD 4 0) := by
  rw [foldRemote, hal, if_neg (by decide), if_neg (by omega)]
  exact Range.meet_within ..

theorem within_foldLocal (r : Range) {x : Local} (hal : x.alive = true) :
    Within (foldLocal r x) x.v.pmin x.v.pmax x.v.dmin x.v.dmax := by
  rw [foldLocal, hal, if_neg (by decide)]
  exact Range.meet_within ..

theorem range_covers_remote (remote : List Remote) (loc : List Local) (x : Remote) (hx : x ∈ remote)
    (hal : x.alive = true) (hlen : 5 ≤ x.vsn.length) :
    Within (range remote loc) (x.vsn.getD 0 0) (x.vsn.getD 1 0) (x.vsn.getD 3 0) (x.vsn.getD 4 0) :=
  List.foldlRecOn (motive := (Within · _ _ _ _)) loc _
    (List.foldl_of_mem (P := (Within · _ _ _ _)) (fun r => within_foldRemote r hal hlen) (fun _ y h => h.after_remote y)
      remote _ hx)
    fun _ h y _ => h.after_local y

theorem range_covers_local (remote : List Remote) (loc : List Local) (x : Local) (hx : x ∈ loc) (hal : x.alive = true) :
    Within (range remote loc) x.v.pmin x.v.pmax x.v.dmin x.v.dmax :=
  List.foldl_of_mem (P := (Within · _ _ _ _)) (fun r => within_foldLocal r hal) (fun _ y h => h.after_local y) loc _ hx

theorem Within.of_inRange {r a b c d p q} (h : Within r a b c d) (hr : inRange r p q = true) :
    a ≤ p ∧ p ≤ b ∧ c ≤ q ∧ q ≤ d := by
  simp only [inRange, Bool.and_eq_true, decide_eq_true_eq] at hr
  exact ⟨Nat.le_trans h.1 hr.1.1.1, Nat.le_trans hr.1.1.2 h.2.1, Nat.le_trans h.2.2.1 hr.1.2, Nat.le_trans hr.2 h.2.2.2⟩

/-- If `verifyProtocol` accepts, then the protocol and delegate versions spoken by *every* listed node - every remote
entry whatever its state, every local record - lie within the range understood by *every* alive node of both sides
(with a full version vector): nobody is mixed with a node it cannot understand. -/
theorem C09_verify_sound (remote : List Remote) (loc : List Local) (h : verify remote loc = true) :
    (∀ a ∈ remote, a.alive = true → 5 ≤ a.vsn.length →
      (∀ x ∈ remote, a.vsn.getD 0 0 ≤ (curOf x).1 ∧ (curOf x).1 ≤ a.vsn.getD 1 0 ∧
                     a.vsn.getD 3 0 ≤ (curOf x).2 ∧ (curOf x).2 ≤ a.vsn.getD 4 0) ∧
      (∀ y ∈ loc, a.vsn.getD 0 0 ≤ y.v.pcur ∧ y.v.pcur ≤ a.vsn.getD 1 0 ∧
                  a.vsn.getD 3 0 ≤ y.v.dcur ∧ y.v.dcur ≤ a.vsn.getD 4 0)) ∧
    (∀ b ∈ loc, b.alive = true →
      (∀ x ∈ remote, b.v.pmin ≤ (curOf x).1 ∧ (curOf x).1 ≤ b.v.pmax ∧ b.v.dmin ≤ (curOf x).2 ∧ (curOf x).2 ≤ b.v.dmax) ∧
      (∀ y ∈ loc, b.v.pmin ≤ y.v.pcur ∧ y.v.pcur ≤ b.v.pmax ∧ b.v.dmin ≤ y.v.dcur ∧ y.v.dcur ≤ b.v.dmax)) := by
  simp only [verify, Bool.and_eq_true, List.all_eq_true] at h
  obtain ⟨hr, hl⟩ := h
  refine ⟨fun a ha hal hlen => ?_, fun b hb hal => ?_⟩
  · have c := range_covers_remote remote loc a ha hal hlen
    exact ⟨fun x hx => c.of_inRange (hr x hx), fun y hy => c.of_inRange (hl y hy)⟩
  · have c := range_covers_local remote loc b hb hal
    exact ⟨fun x hx => c.of_inRange (hr x hx), fun y hy => c.of_inRange (hl y hy)⟩

/-- A version error or a merge-delegate veto is decided before anything is merged: `admission` returns `merged` only
if the versions verify and the delegate (consulted on joins only) did not veto. -/
theorem C09_admission (remote : List Remote) (loc : List Local) (join hasDel ok : Bool) :
    admission remote loc join hasDel ok = .merged ↔ (verify remote loc = true ∧ ¬ (join = true ∧ hasDel = true ∧ ok = false)) := by
  cases h : verify remote loc <;> simp [admission, h]

end Swim.Verify

namespace Swim.Merge

/-- A push/pull entry that says a third member is dead or suspect never
removes that member from `Members()` in the step that merges it: it only starts (or confirms) a
local suspicion; removal needs a later timer expiry or the member's own departure. -/
theorem C09_hearsay_never_kills (n : Node) (r : PushState) (now : Nat) (h : r.st = .dead ∨ r.st = .suspect) :
    (∀ y, listedAt (mergeOne n r now).1 y = listedAt n y) ∧
    (∀ o ∈ (mergeOne n r now).2, isEvent o = false) := by
  rw [mergeOne_eq]
  rcases h with h | h <;> rw [h] <;> exact (C07_suspect_sync n _ _).symm

/-- An alive entry of the exchanged state about another member that passes the receiver's filters and is newer than
what the receiver holds, from the address on record (or concerns a member it has never heard of, at a positive
incarnation), is a listed member right after the merge. -/
theorem C09_join_lists (n : Node) (r : PushState) (now : Nat) (hst : r.st = .alive)
    (hself : r.name ≠ n.cfg.self) (hv : vsnBad r.vsn = false)
    (hdel : (n.cfg.hasAliveDelegate && (r.vsn.length < 6 || !r.delegateOk)) = false)
    (hip : r.ipAllowed = true)
    (hnew : match lookup n.recs r.name with
      | none => 0 < r.inc
      | some old => (old.addr = r.addr ∧ old.port = r.port) ∧ old.inc < r.inc) :
    listedAt (mergeOne n r now).1 r.name = true := by
  have hd : dropped n r.toAlive (r.toEnv now) = false := dropped_eq_false hself hv hdel
  -- the accepted claim, on a node that holds a record for the name
  have known : ∀ (m : Node) old, r.name ≠ m.cfg.self → dropped m r.toAlive (r.toEnv now) = false →
      lookup m.recs r.name = some old → (old.addr = r.addr ∧ old.port = r.port) ∧ old.inc < r.inc →
      listedAt (aliveNode m r.toAlive false false (r.toEnv now)).1 r.name = true := by
    intro m old hself hd hlk h
    rw [aliveNode_accept m r.toAlive false false (r.toEnv now) old hself hlk hd h.1 h.2,
      listedAt_of (lookup_setRec_of_some (r := acceptRec old r.toAlive (r.toEnv now)) hlk rfl)]
    rfl
  rw [mergeOne_eq, hst]
  cases hlk : lookup n.recs r.name with
  | some old => exact known n old hself hd hlk (by simpa [hlk] using hnew)
  | none =>
    -- the stub changes neither the name nor the filters, and has incarnation 0 at the claimed address
    rw [aliveNode_unknown n r.toAlive false false (r.toEnv now) hlk, if_pos ⟨hd, hip⟩]
    exact known _ _ hself hd (lookup_withStub_self hlk) ⟨⟨rfl, rfl⟩, by rw [hlk] at hnew; exact hnew⟩

end Swim.Merge
