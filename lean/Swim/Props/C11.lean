import Swim.Model.Codec
import Swim.Lemmas.Digits
/-!
# C11  Piggyback packing is lossless and stays within the packet budget

What is packed into compound messages comes back (`C11_compound_roundtrip`: one message of at most 255 parts;
`C11_compounds_roundtrip`: any count), and a selection within the budget of `gossip()` or `sendMsg()` makes a
packet of at most `UDPBufferSize` bytes (both by `wireLen_le`). Two witnesses: what was false in the pinned tree.
-/
namespace Swim.Codec

theorem rd16_ofNat (n : Nat) (h : n < 65536) :
    rd16 (UInt8.ofNat (n / 256 % 256)) (UInt8.ofNat (n % 256)) = n := by
  simp only [rd16, UInt8.toNat_ofNat', Nat.mod_mod, top_digit (d := 256) h, Nat.div_add_mod']

theorem readLens_lens (msgs : List Bytes) (body : Bytes) (h : ∀ m ∈ msgs, m.length < 65536) :
    readLens msgs.length (msgs.flatMap (fun m => be16 (m.length % 65536)) ++ body) =
      some (msgs.map (·.length), body) := by
  induction msgs with
  | nil => rfl
  | cons m ms ih =>
    have hm := h m List.mem_cons_self
    rw [List.flatMap_cons, List.append_assoc, Nat.mod_eq_of_lt hm, be16, List.cons_append, List.cons_append,
      List.nil_append, List.length_cons, readLens, ih fun x hx => h x (List.mem_cons_of_mem _ hx), Option.map_some,
      rd16_ofNat _ hm, List.map_cons]

theorem splitParts_flatten (msgs : List Bytes) :
    splitParts (msgs.map (·.length)) msgs.flatten = (msgs, 0) := by
  induction msgs with
  | nil => rfl
  | cons m ms ih =>
    have : ¬ (m ++ ms.flatten).length < m.length := by rw [List.length_append]; exact Nat.not_lt.mpr (Nat.le_add_right ..)
    rw [List.map_cons, List.flatten_cons, splitParts, if_neg this, List.drop_left, List.take_left, ih]

/-- A compound message of at most 255 parts, each shorter than 64 KiB, decodes to exactly those parts,
none truncated. -/
theorem C11_compound_roundtrip (msgs : List Bytes) (hn : msgs.length ≤ 255)
    (hl : ∀ m ∈ msgs, m.length < 65536) :
    decodeCompound (makeCompound msgs).tail = .ok (0, msgs) := by
  have hlt : msgs.length < 256 := Nat.lt_succ_of_le hn
  have hc : (UInt8.ofNat (msgs.length % 256)).toNat = msgs.length := by
    rw [Nat.mod_eq_of_lt hlt, UInt8.toNat_ofNat_of_lt' hlt]
  simp only [makeCompound, List.cons_append, List.nil_append, List.tail_cons, decodeCompound, hc,
    readLens_lens msgs _ hl, splitParts_flatten]

theorem makeCompound_head (msgs : List Bytes) : (makeCompound msgs).head? = some (UInt8.ofNat Gen.c_compoundMsg) := by
  simp [makeCompound]

/-- what the receiver extracts from one compound message (parts; nothing on error) -/
def partsOf (c : Bytes) : List Bytes :=
  match decodeCompound c.tail with
  | .ok (_, ps) => ps
  | .error _ => []

theorem chunks_flatten (k : Nat) (hk : 0 < k) (fuel : Nat) : ∀ (msgs : List Bytes), msgs.length < fuel →
    (chunks k fuel msgs).flatten = msgs := by
  induction fuel with
  | zero => exact fun _ h => nomatch h
  | succ fuel ih =>
    intro msgs h
    rw [chunks]
    by_cases h1 : msgs.length ≤ k
    · rw [if_pos h1]
      cases msgs with
      | nil => rfl
      | cons m ms => exact List.append_nil _
    · have hd : (msgs.drop k).length < fuel :=
        calc (msgs.drop k).length = msgs.length - k := List.length_drop
          _ < msgs.length := Nat.sub_lt (Nat.lt_trans hk (Nat.lt_of_not_le h1)) hk
          _ ≤ fuel := Nat.le_of_lt_succ h
      rw [if_neg h1, List.flatten_cons, ih _ hd, List.take_append_drop]

theorem chunks_length_le (k fuel : Nat) : ∀ (msgs : List Bytes), ∀ c ∈ chunks k fuel msgs, c.length ≤ k := by
  induction fuel with
  | zero => exact fun _ _ hc => nomatch hc
  | succ fuel ih =>
    intro msgs c hc
    rw [chunks] at hc
    by_cases h1 : msgs.length ≤ k
    · rw [if_pos h1] at hc
      cases msgs with
      | nil => nomatch hc
      | cons m ms => rw [List.mem_singleton.mp hc]; exact h1
    · rw [if_neg h1, List.mem_cons] at hc
      rcases hc with rfl | hc
      · exact List.length_take_le ..
      · exact ih _ c hc

/-- However many messages are packed (each below 64 KiB), unpacking every compound message the sender
emits yields exactly those messages, in order. -/
theorem C11_compounds_roundtrip (msgs : List Bytes) (hl : ∀ m ∈ msgs, m.length < 65536) :
    (makeCompounds msgs).flatMap partsOf = msgs := by
  have hflat := chunks_flatten Gen.c_maxCompoundParts (by decide) (msgs.length + 1) msgs (Nat.lt_succ_self _)
  -- each chunk comes back from its compound message: at most 255 parts, all of them among `msgs`
  have : ∀ c ∈ chunks Gen.c_maxCompoundParts (msgs.length + 1) msgs, (partsOf ∘ makeCompound) c = id c := by
    intro c hc
    have h2 : ∀ m ∈ c, m.length < 65536 := fun m hm => hl m (hflat ▸ List.mem_flatten.mpr ⟨c, hc, hm⟩)
    simp only [Function.comp, partsOf, C11_compound_roundtrip c (chunks_length_le _ _ _ c hc) h2, id]
  rw [makeCompounds, List.flatMap_def, List.map_map, List.map_congr_left this, List.map_id, hflat]

theorem makeCompound_count (msgs : List Bytes) :
    (makeCompound msgs).tail.head? = some (UInt8.ofNat (msgs.length % 256)) := by
  simp [makeCompound]

/-- the pinned-tree defect (fixed by ecb4af0): 44 is the value the count byte of a single compound message of 300 parts
would hold (`makeCompound_count`: the count byte is `length % 256`) -/
theorem C11_single_compound_wraps : (300 : Nat) % 256 = 44 := by decide

theorem makeCompound_length (msgs : List Bytes) :
    (makeCompound msgs).length = compoundLen (msgs.map (·.length)) := by
  have h1 : ∀ l : List Bytes, (l.map fun m => (be16 (m.length % 65536)).length).sum = 2 * l.length := by
    intro l
    induction l with
    | nil => rfl
    | cons m ms ih =>
      rw [List.map_cons, List.sum_cons, ih, List.length_cons, Nat.mul_succ, Nat.add_comm]
      rfl
  simp only [makeCompound, compoundLen, List.length_append, List.length_cons, List.length_nil, List.length_map,
    List.length_flatMap, List.length_flatten, h1]

theorem encryptedLength_le (vsn n : Nat) (hv : vsn ≤ 1) : encryptedLength vsn n ≤ n + encryptOverhead vsn := by
  match vsn, hv with
  | 0, _ =>
    show 1 + 12 + n + (16 - n % 16) + 16 ≤ n + 45
    have := Nat.sub_le 16 (n % 16)   -- omega does not need it, but costs half as much again without
    omega
  | 1, _ =>
    show 1 + 12 + n + 16 ≤ n + 29
    omega

theorem encryptedLength_mono (v a b : Nat) (h : a ≤ b) : encryptedLength v a ≤ encryptedLength v b := by
  unfold encryptedLength
  by_cases hv : v ≥ 1
  · rw [if_pos hv, if_pos hv]
    exact Nat.add_le_add_right (Nat.add_le_add_left h _) _
  · rw [if_neg hv, if_neg hv, Nat.add_assoc _ a, Nat.add_assoc _ b]
    exact Nat.add_le_add_right (Nat.add_le_add_left (add_pad_mono (by decide) h) _) _

/-- the regenerated `encryptedLength` samples agree with the model (ties the formula to the code) -/
theorem encryptedLength_samples :
    ∀ s ∈ Gen.encryptedLengthSamples, encryptedLength s.1 s.2.1 = s.2.2 := by decide

/-- what `GetBroadcasts(overhead = compoundOverhead, limit)` guarantees about a selection
(`C10_get_fits` with overhead 2): message sizes plus two bytes each fit the budget -/
def fitsBudget (lens : List Nat) (avail : Int) : Prop :=
  ((lens.sum + Gen.c_compoundOverhead * lens.length : Nat) : Int) ≤ avail

/-- the layers of `rawSendMsgPacket` add at most what the budgets of `gossip()` and `sendMsg()` reserve:
label header, checksum header, encryption overhead (stated over `Int`, as the budgets are) -/
theorem wireLen_le (c : PktCfg) (n : Nat) (hv : c.vsn ≤ 1) :
    (wireLen c n : Int) ≤ labelOverhead c.label + n + Gen.c_crcHeaderOverhead +
      (if c.encrypt then (encryptOverhead c.vsn : Int) else 0) := by
  simp only [wireLen]
  generalize hn1 : (if c.crc = true then n + Gen.c_crcHeaderOverhead else n) = n1
  have h1 : n1 ≤ n + Gen.c_crcHeaderOverhead := hn1 ▸ ite_ind (Nat.le_refl _) (Nat.le_add_right ..)
  have h2 := encryptedLength_le c.vsn n1 hv
  split <;> omega

theorem wireLen_mono (c : PktCfg) (a b : Nat) (h : a ≤ b) : wireLen c a ≤ wireLen c b := by
  have h1 : (if c.crc then a + Gen.c_crcHeaderOverhead else a) ≤ (if c.crc then b + Gen.c_crcHeaderOverhead else b) := by
    cases c.crc
    · exact h
    · exact Nat.add_le_add_right h _
  refine Nat.add_le_add_left ?_ _
  cases c.encrypt
  · exact h1
  · exact encryptedLength_mono _ _ _ h1

theorem gossipAvail_le (c : PktCfg) (henc : c.encrypt = true → c.encEnabled = true) :
    gossipAvail c ≤ c.udpBufferSize - Gen.c_compoundHeaderOverhead - Gen.c_crcHeaderOverhead - labelOverhead c.label -
      (if c.encrypt then (encryptOverhead c.vsn : Int) else 0) := by
  unfold gossipAvail
  cases he : c.encrypt
  · simp only [Bool.false_eq_true, if_false]; split <;> omega
  · rw [henc he]; exact Int.le_refl _

/-- Whatever selection the queue returns within `gossip()`'s budget, the compound packet built from it is
no larger on the wire than `UDPBufferSize`, for every label, encryption version and checksum setting
(compression is applied only where it shrinks the payload: `wireLen_mono`). -/
theorem C11_gossip_packet_fits (c : PktCfg) (lens : List Nat) (hv : c.vsn ≤ 1)
    (henc : c.encrypt = true → c.encEnabled = true)
    (hfit : fitsBudget lens (gossipAvail c)) :
    wireLen c (compoundLen lens) ≤ c.udpBufferSize := by
  have h := wireLen_le c (compoundLen lens) hv
  have hg := gossipAvail_le c henc
  simp only [fitsBudget, compoundLen, Gen.c_compoundHeaderOverhead, Gen.c_crcHeaderOverhead,
    Gen.c_compoundOverhead] at h hg hfit ⊢
  omega

/-- a single selected message sent as is (the `len(msgs) == 1` branch of `gossip()`) fits too: it is
shorter than the compound message holding it -/
theorem C11_gossip_single_fits (c : PktCfg) (l : Nat) (hv : c.vsn ≤ 1)
    (henc : c.encrypt = true → c.encEnabled = true)
    (hfit : fitsBudget [l] (gossipAvail c)) :
    wireLen c l ≤ c.udpBufferSize :=
  Nat.le_trans (wireLen_mono c l (compoundLen [l]) (Nat.le_add_left ..)) (C11_gossip_packet_fits c [l] hv henc hfit)

/-- The compound packet `sendMsg()` builds from its own message of `m` bytes plus the piggybacked selection
fits `UDPBufferSize`. -/
theorem C11_sendMsg_packet_fits (c : PktCfg) (m : Nat) (lens : List Nat) (hv : c.vsn ≤ 1)
    (hfit : fitsBudget lens (sendMsgAvail c m)) :
    wireLen c (compoundLen (m :: lens)) ≤ c.udpBufferSize := by
  have h := wireLen_le c (compoundLen (m :: lens)) hv
  simp only [fitsBudget, sendMsgAvail, compoundLen, Gen.c_compoundHeaderOverhead, Gen.c_crcHeaderOverhead,
    Gen.c_compoundOverhead, List.length_cons, List.sum_cons] at h hfit ⊢
  omega

/-- pinned-tree witness (fixed by a5eb621): with the old budget (no CRC reserve) a full gossip
packet to a protocol-5 peer is 1405 bytes for UDPBufferSize 1400 -/
theorem C11_old_budget_overflows :
    wireLen { udpBufferSize := 1400, label := [], encrypt := false, encEnabled := false, vsn := 1, crc := true }
      (compoundLen [1396]) = 1405 := by decide

end Swim.Codec
