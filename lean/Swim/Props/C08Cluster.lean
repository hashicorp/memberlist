import Swim.Props.ClusterG
/-!
# C08 at cluster level: "left" always means the member called Leave
Read off the general invariant (histories of fewer than 2^32 steps: no incarnation counter wraps): a crash, a timeout
or an accusation is never recorded or announced as a graceful departure by anybody, and a leaver does not come back on
itself.
-/
namespace Swim.Cluster
open Swim.Merge

/-- In every reachable cluster state: a member that some other node holds as left, or that a self-signed dead claim or a
left state entry in flight names, has called Leave. -/
theorem C08_cluster_left_is_left (w0 : World) (ops : List COp) (hfresh : Fresh w0) (hlen : ops.length < u32) :
    (∀ y ∈ (w0.run ops).nodes, ∀ r ∈ y.recs, r.name ≠ y.cfg.self → r.st = .left →
      ∃ X ∈ (w0.run ops).nodes, X.cfg.self = r.name ∧ X.hasLeft = true) ∧
    (∀ m ∈ (w0.run ops).pool, match m with
      | .dead c => c.frm = c.node → ∃ X ∈ (w0.run ops).nodes, X.cfg.self = c.node ∧ X.hasLeft = true
      | .state s => s.st = .left → ∃ X ∈ (w0.run ops).nodes, X.cfg.self = s.name ∧ X.hasLeft = true
      | _ => True) := by
  have h := ginv_reachable ops hfresh hlen
  refine ⟨fun y hy r hr hne hst => ((h.recG hy hr hne).2.2 hst).hasLeft, fun m hm => ?_⟩
  have := h.2.2 m hm
  cases m with
  | alive a => trivial
  | suspect c => trivial
  | dead c => exact fun e => (this.2 e).hasLeft
  | state s => exact fun e => (this.2.2 e).hasLeft

/-- a node's own record is alive unless it has called Leave, in every reachable cluster state -/
theorem C08_cluster_self_alive_unless_left (w0 : World) (ops : List COp) (hfresh : Fresh w0) (hlen : ops.length < u32) :
    ∀ X ∈ (w0.run ops).nodes, ∀ me, selfRec X = some me → me.st = .alive ∨ X.hasLeft = true := by
  have h := ginv_reachable ops hfresh hlen
  intro X hX me hme
  exact (h.self hX me hme).2.2.2.1

/-- In every reachable cluster state, a node that has called Leave does not hold its own record alive: neither replayed
alive claims about it, nor accusations, nor later UpdateNode calls bring it back on the leaver itself. -/
theorem C08_cluster_leaver_stays_gone (w0 : World) (ops : List COp) (hfresh : Fresh w0) (hlen : ops.length < u32) :
    ∀ X ∈ (w0.run ops).nodes, X.hasLeft = true → ∀ me, selfRec X = some me → me.st ≠ .alive := by
  have h := ginv_reachable ops hfresh hlen
  intro X hX hl me hme
  exact (h.self hX me hme).2.2.2.2.2 hl

end Swim.Cluster
