import Swim.Model.Scale
/-!
# The logarithmic scale functions (retransmit limit, push/pull interval, suspicion timeout)

`digits` and `clog2` are used only through their Galois lemmas `digits_le_iff` (`digits n ≤ d ↔ n < 10 ^ d`) and
`clog2_le_iff` (`clog2 n ≤ k ↔ n ≤ 2 ^ k`): specification, monotonicity and the bounds of the three functions follow.
-/
namespace Swim.Scale

theorem digits_zero : digits 0 = 0 := by simp [digits]

theorem digits_succ (n : Nat) : digits (n + 1) = 1 + digits ((n + 1) / 10) := by
  rw [digits]

/-- `digits n` is the least `d` with `n < 10 ^ d`; the specification, monotonicity and the bounds all read off this -/
theorem digits_le_iff (n d : Nat) : digits n ≤ d ↔ n < 10 ^ d := by
  induction d generalizing n with
  | zero => cases n with
    | zero => simp [digits_zero]
    | succ n => rw [digits_succ]; omega
  | succ d ih =>
    cases n with
    | zero => simp [digits_zero, Nat.pow_pos]
    | succ n =>
      rw [digits_succ, Nat.add_comm, Nat.add_le_add_iff_right, ih, Nat.pow_succ, Nat.div_lt_iff_lt_mul (by decide)]

theorem lt_digits_iff (n d : Nat) : d < digits n ↔ 10 ^ d ≤ n := by
  rw [← Nat.not_le, digits_le_iff, Nat.not_lt]

theorem lt_pow_digits (n : Nat) : n < 10 ^ digits n := (digits_le_iff n _).mp (Nat.le_refl _)

theorem digits_pos {n : Nat} (h : 0 < n) : 0 < digits n := (lt_digits_iff n 0).mpr h

/-- `digits n` is the number of decimal digits: `10^(d-1) ≤ n < 10^d` -/
theorem digits_spec (n : Nat) : n < 10 ^ digits n ∧ (0 < n → 10 ^ (digits n - 1) ≤ n) :=
  ⟨lt_pow_digits n, fun h => (lt_digits_iff n _).mp (Nat.sub_one_lt (Nat.ne_of_gt (digits_pos h)))⟩

theorem digits_mono {a b : Nat} (h : a ≤ b) : digits a ≤ digits b :=
  (digits_le_iff a _).mpr (Nat.lt_of_le_of_lt h (lt_pow_digits b))

theorem retransmitLimit_mono (mult : Nat) {a b : Nat} (h : a ≤ b) :
    retransmitLimit mult a ≤ retransmitLimit mult b :=
  Nat.mul_le_mul_left _ (digits_mono h)

theorem retransmitLimit_pos (mult n : Nat) (h : 0 < n) : mult ≤ retransmitLimit mult n :=
  Nat.le_mul_of_pos_right _ (digits_pos h)

theorem retransmitLimit_bound (mult n d : Nat) (h : n < 10 ^ d) : retransmitLimit mult n ≤ mult * d :=
  Nat.mul_le_mul_left _ ((digits_le_iff n d).mpr h)

example : retransmitLimit 4 999 = 12 ∧ retransmitLimit 4 1000 = 16 ∧ retransmitLimit 3 0 = 0 := by
  simp [retransmitLimit, digits]

theorem clog2_le_one (n : Nat) (h : n ≤ 1) : clog2 n = 0 := by
  rw [clog2, dif_pos h]

theorem clog2_gt_one (n : Nat) (h : 1 < n) : clog2 n = 1 + clog2 ((n + 1) / 2) := by
  rw [clog2, dif_neg (Nat.not_le.mpr h)]

/-- `clog2 n` is the least `k` with `n ≤ 2 ^ k` -/
theorem clog2_le_iff (n k : Nat) : clog2 n ≤ k ↔ n ≤ 2 ^ k := by
  induction k generalizing n with
  | zero =>
    refine ⟨fun h => Nat.le_of_not_lt fun h1 => ?_, fun h => Nat.le_of_eq (clog2_le_one n h)⟩
    rw [clog2_gt_one n h1, Nat.add_comm] at h
    exact Nat.not_succ_le_zero _ h
  | succ k ih =>
    by_cases h : n ≤ 1
    · rw [clog2_le_one n h]; exact iff_of_true (Nat.zero_le _) (Nat.le_trans h Nat.one_le_two_pow)
    · rw [clog2_gt_one n (Nat.not_le.mp h), Nat.add_comm, Nat.add_le_add_iff_right, ih, Nat.pow_succ,
        Nat.div_le_iff_le_mul_add_pred (by decide), Nat.add_le_add_iff_right, Nat.mul_comm]

theorem lt_clog2_iff (n k : Nat) : k < clog2 n ↔ 2 ^ k < n := by
  rw [← Nat.not_le, clog2_le_iff, Nat.not_le]

theorem le_pow_clog2 (n : Nat) : n ≤ 2 ^ clog2 n := (clog2_le_iff n _).mp (Nat.le_refl _)

/-- `clog2 n` is the least exponent whose power of two reaches `n` -/
theorem clog2_spec (n : Nat) : n ≤ 2 ^ clog2 n ∧ (1 < n → 2 ^ (clog2 n - 1) < n) :=
  ⟨le_pow_clog2 n, fun h => (lt_clog2_iff n _).mp (Nat.sub_one_lt (Nat.ne_of_gt ((lt_clog2_iff n 0).mpr h)))⟩

theorem clog2_mono {a b : Nat} (h : a ≤ b) : clog2 a ≤ clog2 b :=
  (clog2_le_iff a _).mpr (Nat.le_trans h (le_pow_clog2 b))

theorem pushPullMult_spec (n : Nat) (h : 32 < n) :
    2 ≤ pushPullMult n ∧ 2 ^ (pushPullMult n + 3) < n ∧ n ≤ 2 ^ (pushPullMult n + 4) := by
  -- with `clog2 n = k + 6` the exponents `k + 6 - 4 + 3` and `k + 6 - 4 + 4` evaluate to `k + 5` and `k + 6`
  obtain ⟨k, hk⟩ := Nat.exists_eq_add_of_le' ((lt_clog2_iff n 5).mpr h)
  rw [pushPullMult, if_neg (Nat.not_le.mpr h), hk]
  exact ⟨Nat.le_add_left 2 k, (lt_clog2_iff n _).mp (Nat.lt_of_lt_of_eq (Nat.lt_succ_self _) hk.symm),
    (clog2_le_iff n _).mp (Nat.le_of_eq hk)⟩

theorem pushPullMult_pos (n : Nat) : 1 ≤ pushPullMult n := by
  by_cases h : n ≤ 32
  · rw [pushPullMult, if_pos h]; exact Nat.le_refl 1
  · exact Nat.le_trans (by decide) (pushPullMult_spec n (Nat.not_le.mp h)).1

theorem pushPullMult_mono {a b : Nat} (h : a ≤ b) : pushPullMult a ≤ pushPullMult b := by
  by_cases ha : a ≤ 32
  · rw [pushPullMult, if_pos ha]; exact pushPullMult_pos b
  · rw [pushPullMult, pushPullMult, if_neg ha, if_neg fun hb => ha (Nat.le_trans h hb)]
    exact Nat.sub_le_sub_right (clog2_mono h) 4

example : pushPullMult 32 = 1 ∧ pushPullMult 33 = 2 ∧ pushPullMult 64 = 2 ∧ pushPullMult 65 = 3 ∧ pushPullMult 1000 = 6 := by
  simp [pushPullMult, clog2]

theorem suspScale_ge (n : Nat) : 1000 ≤ suspScale n := Nat.le_max_left _ _

theorem suspicionTimeout_ge (mult n interval : Nat) : mult * interval ≤ suspicionTimeout mult n interval := by
  rw [suspicionTimeout, Nat.le_div_iff_mul_le (by decide), Nat.mul_right_comm]
  exact Nat.mul_le_mul_right _ (Nat.mul_le_mul_left _ (suspScale_ge n))

theorem suspScale_mono {a b : Nat} (h : a ≤ b) : suspScale a ≤ suspScale b := by
  have hm : max 1 a ≤ max 1 b := Nat.max_le.mpr ⟨Nat.le_max_left .., Nat.le_trans h (Nat.le_max_right ..)⟩
  exact Nat.max_le.mpr ⟨Nat.le_max_left ..,
    Nat.le_trans (Nat.sub_le_sub_right (digits_mono (Nat.pow_le_pow_left hm 1000)) 1) (Nat.le_max_right ..)⟩

theorem suspicionTimeout_mono (mult interval : Nat) {a b : Nat} (h : a ≤ b) :
    suspicionTimeout mult a interval ≤ suspicionTimeout mult b interval := by
  unfold suspicionTimeout
  exact Nat.div_le_div_right (Nat.mul_le_mul_right _ (Nat.mul_le_mul_left _ (suspScale_mono h)))

end Swim.Scale
