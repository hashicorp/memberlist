import Swim.Props.ClusterG
import Swim.Props.C02
/-!
# C02 at cluster level: nobody outruns the owner, so a running node always wins
For every history of the cluster model (histories of fewer than 2^32 steps: no incarnation counter wraps; probes may
fail, suspicions start, time out and spread; nodes join, update, leave; no node restarts with a reset counter) every
claim about a member `x`, held as a record or in flight, carries an incarnation that `x` itself has reached. Hence the
side conditions of `C02_suspect_refuted` and `C02_dead_refuted` (accusation below 2^32-1, no suspicion timer about
oneself) hold in every reachable state.
-/
namespace Swim.Cluster
open Swim.Merge

/-- In every reachable cluster state, every record about another member and every claim in flight is bounded by the
incarnation its subject itself has reached. -/
theorem C02_cluster_bounded (w0 : World) (ops : List COp) (hfresh : Fresh w0) (hlen : ops.length < u32) :
    (∀ y ∈ (w0.run ops).nodes, ∀ r ∈ y.recs, r.name ≠ y.cfg.self → Known (w0.run ops) r.name r.inc) ∧
    (∀ m ∈ (w0.run ops).pool, match m with
      | .alive a => Known (w0.run ops) a.node a.inc
      | .suspect c => Known (w0.run ops) c.node c.inc
      | .dead c => Known (w0.run ops) c.node c.inc
      | .state s => Known (w0.run ops) s.name s.inc) := by
  have h := ginv_reachable ops hfresh hlen
  refine ⟨?_, ?_⟩
  · intro y hy r hr hne
    exact (h.recG hy hr hne).2.1.known
  · intro m hm
    have := h.2.2 m hm
    cases m with
    | alive a => exact this.2.known
    | suspect c => exact this
    | dead c => exact this.1
    | state s => exact this.1.known

/-- In every reachable cluster state, a running node (own record alive, Leave not called) that is handed any accusation
in flight about itself at an incarnation at least its own - a suspect claim, a dead claim, a suspect/dead entry of a
state list - refutes it (`Refuted`): its incarnation ends strictly above the accusation, its own record carries it and
is alive, exactly one alive broadcast announces it. The only assumption about counters is that the history has fewer than
2^32 steps. -/
theorem C02_cluster_defends (w0 : World) (ops : List COp) (hfresh : Fresh w0) (hlen : ops.length + 1 < u32)
    (X : Node) (hX : X ∈ (w0.run ops).nodes) (me : Rec) (hme : selfRec X = some me)
    (halive : me.st = .alive) (hrun : X.hasLeft = false) (m : Msg) (hm : m ∈ (w0.run ops).pool) (env : Env) :
    match m with
    | .alive _ => True
    | .suspect c => c.node = X.cfg.self → me.inc ≤ c.inc → Refuted X c.inc (receive m env X)
    | .dead c => c.node = X.cfg.self → me.inc ≤ c.inc → Refuted X c.inc (receive m env X)
    | .state s => (s.st = .suspect ∨ s.st = .dead) → s.name = X.cfg.self → me.inc ≤ s.inc →
        Refuted X s.inc (receive m env X) := by
  have h := ginv_reachable ops hfresh (Nat.lt_of_succ_lt hlen)
  have hb := h.2.2 m hm
  have hnt := h.noSelfTimer hX
  -- the bounds of the single-node theorems: counter and accusation are at most the number of steps taken
  have hcnt : X.selfInc < u32 := Nat.lt_of_le_of_lt (h.selfInc_le hX) (Nat.lt_of_succ_lt hlen)
  have bound : ∀ i, Known (w0.run ops) X.cfg.self i → i < u32 - 1 := fun i hk =>
    Nat.lt_sub_of_add_lt (Nat.lt_of_le_of_lt
      (Nat.succ_le_succ (Nat.le_trans (known_self h hX hme hk) (Nat.le_trans (h.self hX me hme).1 (h.selfInc_le hX)))) hlen)
  cases m with
  | alive a => trivial
  | suspect c =>
    intro hc hle
    exact C02_suspect_refuted X c env me hc hme halive (hnt.find_none hc) hle hcnt (bound c.inc (hc ▸ hb))
  | dead c =>
    intro hc hle
    exact C02_dead_refuted X c env me hc hme halive hrun hle hcnt (bound c.inc (hc ▸ hb.1))
  | state s =>
    intro hs hc hle
    rw [receive_state_susp s env X hs]
    exact C02_suspect_refuted X { inc := s.inc, node := s.name, frm := X.cfg.self } env me hc hme halive
      (hnt.find_none hc) hle hcnt (bound s.inc (hc ▸ hb.1.known))

end Swim.Cluster
