import Swim.Props.C12
import Swim.Props.Msgpack
/-!
# C12, end to end: a wire struct through the whole packet pipeline

`C12_packet_roundtrip` treats the message body as opaque bytes and `C12_msgpack_roundtrip` the
body alone; composed, the receiver recovers the *fields* the sender put into the struct. Also the port rule
of `handleAlive` (`alivePort`), which is the one `readRemoteState` applies on the stream path.
-/
namespace Swim.Codec
open Swim.Msgpack

/-- the receiver on an unwrapped packet payload: the type byte, then `decode` of the struct -/
def readStruct (k : Kind) (m : Bytes) : Option (UInt8 × List Val) :=
  match m with
  | t :: body => (decStruct (schema k) body).map fun x => (t, x.1)
  | [] => none

/-- For every wire struct, every well-formed field list, every type byte that is none of the checksum /
compression / label markers, every label, key, nonce, compression decision, checksum setting and encryption
version: the receiver reads back the type byte and exactly the fields that were sent. -/
theorem C12_struct_over_packet (P : Prims) (c : SendCfg) (useComp : Bool) (t : UInt8) (k : Kind) (vs : List Val)
    (ht : t.toNat ≠ Gen.c_hasCrcMsg ∧ t.toNat ≠ Gen.c_compressMsg ∧ t.toNat ≠ Gen.c_hasLabelMsg)
    (hlabel : c.label.length ≤ 255) (hnonce : c.nonce.length = 12) (hwf : WF (schema k) vs) :
    (recvPacket P c.label c.key (sendPacket P c useComp (t :: encStruct (schema k) vs))).bind (readStruct k)
      = some (t, vs) := by
  rw [C12_packet_roundtrip P c useComp t _ ht hlabel hnonce]
  have h := C12_msgpack_roundtrip k vs [] hwf
  simp only [List.append_nil] at h
  simp [readStruct, h]

/-- On the packet path (`handleAlive`) a non-zero port of an alive message is kept by every receiver that speaks
protocol version 2 or later. -/
theorem C12_alive_port_recovered (bindPort proto port : Nat) (hp : 2 ≤ proto) (h0 : port ≠ 0) :
    alivePort bindPort proto port = port := by
  unfold alivePort
  have : ¬ proto < 2 := Nat.not_lt.mpr hp
  simp [this, h0]

/-- A message without a port, or any message at a receiver below version 2, gets the receiver's configured port. -/
theorem C12_alive_port_masked (bindPort proto port : Nat) (h : proto < 2 ∨ port = 0) :
    alivePort bindPort proto port = bindPort := by
  unfold alivePort
  rcases h with h | h <;> simp [h]

/-- the packet path and the stream path (`readRemoteState`, `normState`) apply the same rule -/
theorem C12_alive_port_same_rule_as_stream (bindPort proto p : Nat) (a i m n st v : Val) :
    normState bindPort (decide (proto < 2)) [a, i, m, n, .uint p, st, v] =
      [a, i, m, n, .uint (alivePort bindPort proto p), st, v] := by
  simp [normState, alivePort]

end Swim.Codec
