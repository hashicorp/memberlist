import Swim.Gen.Facts
/-!
# C04 / C03 / C19: the shipped configuration profiles

The probe machinery assumes that a probe's own timeout is shorter than the interval between probes (the
acknowledgement record is reaped at the awareness-scaled interval: with a timeout at or above it every ping
whose answer takes longer than the interval is counted as failed although it is well inside the timeout).
The three profiles the package ships satisfy that. Regenerated from the running code (`DefaultLANConfig`,
`DefaultWANConfig`, `DefaultLocalConfig`) on every run.
-/
namespace Swim.Gen

def cfgGet (c : List (String × Int)) (k : String) : Int := ((c.find? (·.1 == k)).map (·.2)).getD 0

/-- a profile is sane for the failure detector: timeout below interval, somebody to gossip to, a positive
suspicion multiplier and a maximum not below the minimum -/
def profileSane (c : List (String × Int)) : Bool :=
  0 < cfgGet c "ProbeTimeoutMs" && cfgGet c "ProbeTimeoutMs" < cfgGet c "ProbeIntervalMs" &&
  0 < cfgGet c "GossipNodes" && 0 < cfgGet c "GossipIntervalMs" &&
  1 ≤ cfgGet c "SuspicionMult" && 1 ≤ cfgGet c "SuspicionMaxTimeoutMult" &&
  1 ≤ cfgGet c "AwarenessMaxMultiplier" && 0 ≤ cfgGet c "IndirectChecks" &&
  0 < cfgGet c "GossipToTheDeadTimeMs" && 0 < cfgGet c "PushPullIntervalMs" && 0 < cfgGet c "HandoffQueueDepth"

/-- every shipped profile is sane (regenerated on every run) -/
theorem C04_shipped_profiles_sane : profileSane cfgLAN = true ∧ profileSane cfgWAN = true ∧ profileSane cfgLocal = true := by
  decide +kernel

/-- the WAN profile against the LAN profile: probe interval and probe timeout at least as long, gossip fan-out
(`GossipNodes`) at least as large -/
theorem C04_wan_profile_is_slower :
    cfgGet cfgLAN "ProbeIntervalMs" ≤ cfgGet cfgWAN "ProbeIntervalMs" ∧
    cfgGet cfgLAN "ProbeTimeoutMs" ≤ cfgGet cfgWAN "ProbeTimeoutMs" ∧
    cfgGet cfgLAN "GossipNodes" ≤ cfgGet cfgWAN "GossipNodes" := by decide +kernel

end Swim.Gen
