import Swim.Model.Susp
import Swim.Lemmas.Rules
/-!
# C06  Suspicion timeout respects the Lifeguard bounds and confirmation rules

The timer (`Swim.Susp`) is used through `fire_cases` and `confirm_cases`, which say what the two operations return,
case by case; that both keep `Inv` (`fire_step`, `confirm_step`) and the `C06_*` statements are read off them. The
`Swim.Merge` part at the end is about the node's timer callback, by `timerFire_cases` of `Lemmas/Rules`.
-/
namespace Swim.Susp

/-- what `fire` and `confirm` keep true of a timer: a pending deadline (`dl`) and a recorded firing (`fa`, `famax`) lie
between `start + minT` and `start + maxT`, no more than `k` confirmations are counted (`nk`), and a timer with a
pending deadline has not fired (`once`). No field mentions `tmo`; it is kept so that `Inv tmo s` reads as the invariant
of a timer run under `tmo`. -/
structure Inv (tmo : Nat → Nat) (s : T) : Prop where
  dl : ∀ d, s.deadline = some d → s.start + s.minT ≤ d ∧ d ≤ s.start + s.maxT
  fa : ∀ f, s.firedAt = some f → s.start + s.minT ≤ f
  famax : ∀ f, s.firedAt = some f → f ≤ s.start + s.maxT
  nk : s.n ≤ s.k
  once : s.deadline.isSome → s.firedAt = none

theorem new_inv (tmo : Nat → Nat) (frm : String) (k minT maxT now : Nat) (h : minT ≤ maxT) :
    Inv tmo (new frm k minT maxT now) := by
  refine ⟨?_, nofun, nofun, Nat.zero_le _, fun _ => rfl⟩
  rintro _ ⟨⟩
  show now + minT ≤ now + ite .. ∧ now + ite .. ≤ now + maxT
  by_cases hk : k < 1
  · rw [if_pos hk]; exact ⟨Nat.le_refl _, Nat.add_le_add_left h _⟩
  · rw [if_neg hk]; exact ⟨Nat.add_le_add_left h _, Nat.le_refl _⟩

/-- what a timer is configured with never changes -/
def Same (a b : T) : Prop := a.k = b.k ∧ a.minT = b.minT ∧ a.maxT = b.maxT ∧ a.start = b.start

/-- firing turns a pending deadline `d ≤ now` into `firedAt = d`; otherwise it is the identity, and then a deadline
that is due belongs to a timer that has fired before -/
theorem fire_cases (s : T) (now : Nat) :
    (fire s now = s ∧ ∀ d, s.deadline = some d → d ≤ now → s.firedAt ≠ none) ∨
    ∃ d, s.deadline = some d ∧ d ≤ now ∧ fire s now = { s with deadline := none, firedAt := some d } := by
  unfold fire
  cases hd : s.deadline with
  | none => exact .inl ⟨rfl, nofun⟩
  | some d =>
    by_cases hc : d ≤ now ∧ s.firedAt.isNone
    · exact .inr ⟨d, rfl, hc.1, if_pos hc⟩
    · refine .inl ⟨if_neg hc, fun d' e hle hf => hc ⟨?_, ?_⟩⟩
      · cases e; exact hle
      · rw [hf]; rfl

theorem fire_step (tmo : Nat → Nat) (s : T) (now : Nat) (h : Inv tmo s) :
    Inv tmo (fire s now) ∧ Same (fire s now) s := by
  rcases fire_cases s now with ⟨e, _⟩ | ⟨d, hd, _, e⟩ <;> rw [e]
  · exact ⟨h, rfl, rfl, rfl, rfl⟩
  · have hb := h.dl d hd
    exact ⟨⟨nofun, fun f hf => by cases hf; exact hb.1, fun f hf => by cases hf; exact hb.2, h.nk, nofun⟩,
      rfl, rfl, rfl, rfl⟩

theorem fire_pending (tmo : Nat → Nat) (s : T) (now d : Nat) (h : Inv tmo s)
    (hd : (fire s now).deadline = some d) : now < d := by
  rcases fire_cases s now with ⟨e, g⟩ | ⟨_, _, _, e⟩ <;> rw [e] at hd
  · exact Nat.lt_of_not_le fun hle => g d hd hle (h.once (by rw [hd]; rfl))
  · cases hd

/-- the outcomes of `Confirm`, with `s1` the timer after due firings: ignored once `k` confirmations are counted or
when the sender is already recorded; otherwise counted (`s2`), and then a timer that has fired is left alone, a
pending one is re-armed to `t = start + tmo n`, or fires at once when `t` has passed -/
theorem confirm_cases (tmo : Nat → Nat) (s : T) (frm : String) (now : Nat) :
    let s1 := fire s now
    let s2 := { s1 with n := s1.n + 1, confirmers := s1.confirmers ++ [frm] }
    let t := s1.start + tmo (s1.n + 1)
    ((s1.k ≤ s1.n ∨ s1.confirmers.contains frm = true) ∧ confirm tmo s frm now = (s1, false)) ∨
    (s1.n < s1.k ∧ s1.confirmers.contains frm = false ∧
      ((s1.deadline = none ∧ confirm tmo s frm now = (s2, true)) ∨
       (s1.deadline.isSome ∧ now < t ∧ confirm tmo s frm now = ({ s2 with deadline := some t }, true)) ∨
       (s1.deadline.isSome ∧ t ≤ now ∧
         confirm tmo s frm now = ({ s2 with deadline := none, firedAt := some now }, true)))) := by
  unfold confirm
  simp only
  generalize fire s now = s1
  by_cases c1 : s1.n ≥ s1.k
  · exact .inl ⟨.inl c1, if_pos c1⟩
  · rw [if_neg c1]
    by_cases c2 : s1.confirmers.contains frm = true
    · exact .inl ⟨.inr c2, if_pos c2⟩
    · rw [if_neg c2]
      refine .inr ⟨Nat.not_le.mp c1, Bool.not_eq_true _ ▸ c2, ?_⟩
      cases s1.deadline with
      | none => exact .inl ⟨rfl, rfl⟩
      | some d =>
        by_cases c3 : s1.start + tmo (s1.n + 1) > now
        · exact .inr (.inl ⟨rfl, c3, if_pos c3⟩)
        · exact .inr (.inr ⟨rfl, Nat.not_lt.mp c3, if_neg c3⟩)

theorem confirm_step (tmo : Nat → Nat) (s : T) (frm : String) (now : Nat)
    (hs : Sched tmo s.k s.minT s.maxT) (h : Inv tmo s) :
    Inv tmo (confirm tmo s frm now).1 ∧ Same (confirm tmo s frm now).1 s := by
  obtain ⟨h1, hk⟩ := fire_step tmo s now h
  have hb := hs.bounded ((fire s now).n + 1)
  rw [← hk.2.1, ← hk.2.2.1] at hb   -- the bounds of `fire s now`
  rcases confirm_cases tmo s frm now with ⟨_, e⟩ | ⟨hn, _, ⟨_, e⟩ | ⟨hd, _, e⟩ | ⟨hd, ht, e⟩⟩ <;> rw [e]
  · exact ⟨h1, hk⟩
  · exact ⟨⟨h1.dl, h1.fa, h1.famax, hn, h1.once⟩, hk⟩
  · refine ⟨⟨fun d hd' => ?_, h1.fa, h1.famax, hn, fun _ => h1.once hd⟩, hk⟩
    cases hd'
    exact ⟨Nat.add_le_add_left hb.1 _, Nat.add_le_add_left hb.2 _⟩
  · -- fires at `now`: not before `start + minT` since `t ≤ now`, not after `start + maxT` since the old deadline,
    -- still pending after the due firings, lay ahead
    obtain ⟨d, hd⟩ := Option.isSome_iff_exists.mp hd
    refine ⟨⟨nofun, fun f hf => ?_, fun f hf => ?_, hn, nofun⟩, hk⟩
    · cases hf
      exact Nat.le_trans (Nat.add_le_add_left hb.1 _) ht
    · cases hf
      exact Nat.le_trans (Nat.le_of_lt (fire_pending tmo s now d h hd)) (h1.dl d hd).2

/-- Whatever confirmations arrive (any senders, duplicates, the accuser itself, any times): if the timer has fired by the
end of the script, it fired no earlier than `start + min` and no later than `start + max`; no deadline is left pending. -/
theorem C06_fire_bounds (tmo : Nat → Nat) (s : T) (script : List (Nat × String))
    (hs : Sched tmo s.k s.minT s.maxT) (h : Inv tmo s) :
    let r := run tmo s script
    (∀ f, r.firedAt = some f → s.start + s.minT ≤ f ∧ f ≤ s.start + s.maxT) ∧ (r.deadline = none) := by
  induction script generalizing s with
  | nil =>
    simp only [run]
    cases hd : s.deadline with
    | none => exact ⟨fun f hf => ⟨h.fa f hf, h.famax f hf⟩, hd⟩
    | some d =>
      dsimp only
      rcases fire_cases s d with ⟨_, g⟩ | ⟨d', hd', _, e⟩
      · exact absurd (h.once (by rw [hd]; rfl)) (g d hd (Nat.le_refl d))
      · rw [e]
        exact ⟨fun f hf => by cases hf; exact h.dl d' hd', rfl⟩
  | cons x rest ih =>
    obtain ⟨hi, ek, emin, emax, est⟩ := confirm_step tmo s x.2 x.1 hs h
    have := ih (confirm tmo s x.2 x.1).1 (by rw [ek, emin, emax]; exact hs) hi
    rwa [est, emin, emax] at this

/-- A confirmation from a name already recorded (the original accuser included) changes nothing and is not
re-gossiped. -/
theorem C06_confirm_once (tmo : Nat → Nat) (s : T) (frm : String) (now : Nat)
    (h : (fire s now).confirmers.contains frm = true) :
    (confirm tmo s frm now) = (fire s now, false) := by
  rcases confirm_cases tmo s frm now with ⟨_, e⟩ | ⟨_, hf, _⟩
  · exact e
  · cases h.symm.trans hf

theorem C06_accuser_recorded (frm : String) (k minT maxT now : Nat) :
    (new frm k minT maxT now).confirmers.contains frm = true := by simp [new]

/-- Once `k` confirmations are counted further ones are ignored. -/
theorem C06_stops_at_k (tmo : Nat → Nat) (s : T) (frm : String) (now : Nat) (h : (fire s now).n ≥ (fire s now).k) :
    (confirm tmo s frm now) = (fire s now, false) := by
  rcases confirm_cases tmo s frm now with ⟨_, e⟩ | ⟨hn, _⟩
  · exact e
  · exact absurd hn (Nat.not_lt.mpr h)

/-- With too few peers to confirm (`k = 0`) the timer is armed with the minimum timeout from the start. (No
confirmation is accepted then: `C06_stops_at_k`, whose `n ≥ k` is trivial.) -/
theorem C06_k0_exact_min (frm : String) (minT maxT now : Nat) :
    (new frm 0 minT maxT now).deadline = some (now + minT) := rfl

/-- An accepted confirmation re-arms the pending timer to exactly `start + tmo n`, or fires at once if that instant
has passed. -/
theorem C06_deadline_formula (tmo : Nat → Nat) (s : T) (frm : String) (now : Nat) (d : Nat)
    (hd : (fire s now).deadline = some d) (hn : (fire s now).n < (fire s now).k)
    (hf : (fire s now).confirmers.contains frm = false) :
    let r := (confirm tmo s frm now).1
    (r.n = (fire s now).n + 1) ∧
    ((r.deadline = some (r.start + tmo r.n) ∧ now < r.start + tmo r.n) ∨
     (r.firedAt = some now ∧ r.start + tmo r.n ≤ now)) := by
  rcases confirm_cases tmo s frm now with ⟨h | h, _⟩ | ⟨_, _, ⟨h, _⟩ | ⟨_, ht, e⟩ | ⟨_, ht, e⟩⟩
  · exact absurd hn (Nat.not_lt.mpr h)
  · cases h.symm.trans hf
  · cases h.symm.trans hd
  · rw [e]; exact ⟨rfl, .inl ⟨rfl, ht⟩⟩
  · rw [e]; exact ⟨rfl, .inr ⟨rfl, ht⟩⟩

/-- non-vacuity: k = 2, min 2 s, max 6 s (ms units), schedule 6000/3476/2000: a duplicate and the
accuser do not count; two distinct confirmers drive the timeout to the minimum. -/
example :
    let tmo : Nat → Nat := fun j => if j = 0 then 6000 else if j = 1 then 3476 else 2000
    (run tmo (new "a" 2 2000 6000 100) [(200, "a"), (300, "b"), (400, "b"), (500, "c")]).firedAt = some 2100 := by
  decide

end Swim.Susp

namespace Swim.Merge

/-- The callback of a suspicion that has since been refuted, replaced
or completed (the record's change stamp differs from the one the timer captured, or the record is
no longer suspect) does nothing at all. -/
theorem C06_stale_timer_harmless (n : Node) (node : String) (ca : Nat) (env : Env) (r : Rec)
    (hr : lookup n.recs node = some r) (hstale : r.st ≠ .suspect ∨ r.changed ≠ some ca) :
    timerFire n node ca env = (n, []) := by
  rcases timerFire_cases n node ca env with ⟨_, e⟩ | ⟨r', hr', hs, hc, _⟩
  · exact e
  · cases hr.symm.trans hr'
    exact hstale.elim (absurd hs) (absurd hc)

/-- When the callback does act, the record is still the suspicion it was armed for: suspect, with the change stamp the
timer captured. (What it then issues, a dead claim signed by the local node at the held incarnation, is
`timerFire_suspect`.) -/
theorem C06_timer_kills_only_its_suspicion (n : Node) (node : String) (ca : Nat) (env : Env)
    (h : timerFire n node ca env ≠ (n, [])) :
    ∃ r, lookup n.recs node = some r ∧ r.st = .suspect ∧ r.changed = some ca := by
  rcases timerFire_cases n node ca env with ⟨_, e⟩ | ⟨r, hr, hs, hc, _⟩
  · exact absurd e h
  · exact ⟨r, hr, hs, hc⟩

/-- the number of confirmations a node expects: `SuspicionMult - 2`, or none when the cluster
is too small to provide them -/
theorem C06_k_rule (n : Node) (s : Claim) (env : Env) (r : Rec)
    (hr : lookup n.recs s.node = some r) (hal : r.st = .alive) (hinc : r.inc ≤ s.inc)
    (hnt : n.timers.find? (·.node == s.node) = none) (hself : r.name ≠ n.cfg.self) :
    Out.newTimer s.node (if n.numNodes < n.cfg.suspicionK + 2 then 0 else n.cfg.suspicionK) s.frm ∈ (suspectNode n s env).2 := by
  rw [suspectNode_other n s env r (lookup_name hr ▸ hself) hr hal hnt hinc]
  exact List.mem_cons_of_mem _ List.mem_cons_self

end Swim.Merge
