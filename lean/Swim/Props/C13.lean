import Swim.Model.Ingest
import Swim.Lemmas.Digits
/-!
# C13  Hostile bytes never crash, hang, or bypass the documented resource caps

The packet path of `Model/Ingest` only (label, decryption, checksum, command dispatch with compound nesting),
where a Go slice or index out of bounds is the explicit outcome `Fail.panic`: no input reaches it.
`tryKeys_cases` and `decryptPayload_cases` say what the decryption layer can return; C14 is read off them.
The nesting of compound messages ends because a part is shorter than its message (`decodeCompound_part_length_lt`).
-/
namespace Swim.Codec

theorem splitParts_part_length_le (lens : List Nat) :
    ∀ (b : Bytes), ∀ p ∈ (splitParts lens b).1, p.length ≤ b.length := by
  induction lens with
  | nil => exact fun _ _ hp => nomatch hp
  | cons l ls ih =>
    intro b p hp
    rw [splitParts] at hp
    by_cases h : b.length < l
    · rw [if_pos h] at hp
      nomatch hp
    · rw [if_neg h] at hp
      rcases List.mem_cons.mp hp with rfl | hp
      · exact List.length_take_le' ..
      · exact Nat.le_trans (ih _ p hp) (List.length_drop ▸ Nat.sub_le ..)

theorem readLens_rest_length_le (n : Nat) :
    ∀ (b : Bytes) (ls : List Nat) (r : Bytes), readLens n b = some (ls, r) → r.length ≤ b.length := by
  induction n with
  | zero => intro b ls r h; cases h; exact Nat.le_refl _
  | succ n ih =>
    intro b ls r h
    match b, h with
    | x :: y :: rest, h =>
      rw [readLens, Option.map_eq_some_iff] at h
      obtain ⟨⟨ls1, r1⟩, hr, he⟩ := h
      cases he
      exact Nat.le_trans (ih rest ls1 r hr) (Nat.le_add_right _ 2)

theorem decodeCompound_part_length_lt (body : Bytes) (t : Nat) (parts : List Bytes)
    (h : decodeCompound body = .ok (t, parts)) : ∀ p ∈ parts, p.length < body.length := by
  match body, h with
  | n :: rest, h =>
    simp only [decodeCompound] at h
    cases hr : readLens n.toNat rest with
    | none => rw [hr] at h; cases h
    | some lr =>
      obtain ⟨lens, r⟩ := lr
      rw [hr] at h
      -- `h` gives count and parts as the two components of `splitParts`, swapped
      obtain rfl : (splitParts lens r).1 = parts := congrArg Prod.snd (Except.ok.inj h)
      -- a part is no longer than the bodies, the bodies no longer than what follows the count byte
      exact fun p hp => Nat.lt_succ_of_le
        (Nat.le_trans (splitParts_part_length_le lens r p hp) (readLens_rest_length_le _ _ _ _ hr))

end Swim.Codec

namespace Swim.Ingest
open Swim.Codec

theorem slice_ok {b : Bytes} {i j : Nat} (h : i ≤ j ∧ j ≤ b.length) : slice b i j = .ok ((b.drop i).take (j - i)) :=
  if_pos h

theorem sliceFrom_ok {b : Bytes} {i : Nat} (h : i ≤ b.length) : sliceFrom b i = .ok (b.drop i) :=
  if_pos h

theorem sliceTo_ok {b : Bytes} {j : Nat} (h : j ≤ b.length) : sliceTo b j = .ok (b.take j) :=
  if_pos h

theorem idx_ok {b : Bytes} {i : Nat} {x : UInt8} (h : b[i]? = some x) : idx b i = .ok x := by
  rw [idx, h]

theorem pkcs7decodeRaw_of_valid {bs : Nat} (buf : Bytes) (h : pkcs7valid buf bs = true) :
    pkcs7decodeRaw buf = .ok (pkcs7strip buf) := by
  unfold pkcs7valid at h
  cases hl : buf.getLast? with
  | none => rw [hl] at h; cases h
  | some last =>
    simp only [hl, Bool.and_eq_true, decide_eq_true_eq] at h
    have hne : buf.length ≠ 0 := fun e => by rw [List.eq_nil_of_length_eq_zero e] at hl; cases hl
    rw [pkcs7decodeRaw, if_neg hne, idx_ok (List.getLast?_eq_getElem? ▸ hl)]
    show (if last.toNat ≤ buf.length then sliceTo buf (buf.length - last.toNat) else _) = _
    rw [if_pos h.1.2, sliceTo_ok (Nat.sub_le ..), pkcs7strip, hl]

/-- what `tryKeys` can return: a drop, or the opening under one of the keys (for version 0 with its valid
padding stripped) - never a panic -/
theorem tryKeys_cases (A : Aead) (vsn : UInt8) (nonce ct aad : Bytes) (keys : List Bytes) :
    (∃ w, tryKeys A vsn nonce ct aad keys = .error (.drop w)) ∨
    ∃ k ∈ keys, ∃ plain, A.openB k nonce aad ct = some plain ∧
      ((vsn ≠ 0 ∧ tryKeys A vsn nonce ct aad keys = .ok plain) ∨
       (vsn = 0 ∧ pkcs7valid plain 16 = true ∧ tryKeys A vsn nonce ct aad keys = .ok (pkcs7strip plain))) := by
  induction keys with
  | nil => exact .inl ⟨_, rfl⟩
  | cons k ks ih =>
    rw [tryKeys]
    cases hk : A.openB k nonce aad ct with
    | none =>
      refine ih.imp id fun ⟨k', hk', rest⟩ => ⟨k', List.mem_cons_of_mem _ hk', rest⟩
    | some plain =>
      dsimp only
      by_cases hv : vsn = 0
      · rw [if_pos (beq_iff_eq.mpr hv)]
        by_cases hp : pkcs7valid plain 16 = true
        · rw [if_pos hp, pkcs7decodeRaw_of_valid plain hp]
          exact .inr ⟨k, List.mem_cons_self, plain, hk, .inr ⟨hv, hp, rfl⟩⟩
        · rw [if_neg hp]
          exact .inl ⟨_, rfl⟩
      · rw [if_neg (mt beq_iff_eq.mp hv)]
        exact .inr ⟨k, List.mem_cons_self, plain, hk, .inl ⟨hv, rfl⟩⟩

def nonceOf (msg : Bytes) : Bytes := (msg.drop 1).take 12

/-- the sealed body of an encrypted message (ciphertext and tag): what follows version byte and nonce -/
def bodyOf (msg : Bytes) : Bytes := msg.drop 13

/-- `decryptPayload` drops the message, or is `tryKeys` on the version byte, nonce and body it carries -/
theorem decryptPayload_cases (A : Aead) (keys : List Bytes) (msg aad : Bytes) :
    (∃ w, decryptPayload A keys msg aad = .error (.drop w)) ∨
    ∃ v, msg.head? = some v ∧ v.toNat ≤ Gen.c_maxEncryptionVersion ∧
      decryptPayload A keys msg aad = tryKeys A v (nonceOf msg) (bodyOf msg) aad keys := by
  unfold decryptPayload
  cases msg with
  | nil => exact .inl ⟨_, rfl⟩
  | cons v rest =>
    simp only [List.length_cons, Nat.succ_ne_zero, if_false, idx_ok List.getElem?_cons_zero, bind, Except.bind]
    by_cases h1 : v.toNat > Gen.c_maxEncryptionVersion
    · exact .inl ⟨_, by rw [if_pos h1]⟩
    rw [if_neg h1]
    by_cases h2 : rest.length + 1 < encryptedLength v.toNat 0
    · exact .inl ⟨_, by rw [if_pos h2]⟩
    rw [if_neg h2]
    -- a message of the minimal encrypted length holds the version byte and the nonce
    have hmin : 13 ≤ encryptedLength v.toNat 0 := by
      unfold encryptedLength
      exact ite_ind (by decide) (by decide)
    have hlen : 13 ≤ rest.length + 1 := Nat.le_trans hmin (Nat.le_of_not_lt h2)
    refine .inr ⟨v, rfl, Nat.le_of_not_gt h1, ?_⟩
    rw [slice_ok ⟨by decide, hlen⟩, sliceFrom_ok hlen]
    rfl

/-- For every byte string, key list and associated data, `decryptPayload` returns plaintext or an error; it
never panics. -/
theorem C13_decrypt_no_panic (A : Aead) (keys : List Bytes) (msg aad : Bytes) :
    decryptPayload A keys msg aad ≠ .error .panic := by
  obtain ⟨w, h⟩ | ⟨v, -, -, h⟩ := decryptPayload_cases A keys msg aad
  · rw [h]; nofun
  · rw [h]
    obtain ⟨w, h⟩ | ⟨_, -, _, -, ⟨-, h⟩ | ⟨-, -, h⟩⟩ := tryKeys_cases A v (nonceOf msg) (bodyOf msg) aad keys <;>
      (rw [h]; nofun)

/-- the pinned code did panic: a 16-byte plaintext ending in 0xff, decrypted as version 0
(known_findings.json `fixed:` C13 14559a2) -/
theorem C13_pinned_pkcs7_panics :
    pkcs7decodeRaw (List.replicate 15 0 ++ [255]) = .error .panic := by rfl

theorem foldParts_ok (f : Bytes → G (List Leaf)) (parts : List Bytes) (h : ∀ p ∈ parts, ∃ l, f p = .ok l)
    (acc : List Leaf) : ∃ ls, parts.foldlM (fun acc p => do let l ← f p; pure (acc ++ l)) acc = .ok ls := by
  induction parts generalizing acc with
  | nil => exact ⟨acc, rfl⟩
  | cons p ps ih =>
    obtain ⟨l, hl⟩ := h p List.mem_cons_self
    rw [List.foldlM_cons, hl]
    exact ih (fun q hq => h q (List.mem_cons_of_mem _ hq)) (acc ++ l)

theorem foldParts_congr (f g : Bytes → G (List Leaf)) (parts : List Bytes) (h : ∀ p ∈ parts, f p = g p)
    (acc : List Leaf) :
    parts.foldlM (fun acc p => do let l ← f p; pure (acc ++ l)) acc =
      parts.foldlM (fun acc p => do let l ← g p; pure (acc ++ l)) acc := by
  induction parts generalizing acc with
  | nil => rfl
  | cons p ps ih =>
    rw [List.foldlM_cons, List.foldlM_cons, h p List.mem_cons_self]
    cases g p with
    | error e => rfl
    | ok l => exact ih (fun q hq => h q (List.mem_cons_of_mem _ hq)) (acc ++ l)

/-- For every fuel and every byte string the dispatcher returns a (possibly empty) list of leaf commands: no
panic and no error escapes, however the compound messages are nested. -/
theorem C13_handleCommand_total : ∀ (fuel : Nat) (buf : Bytes), ∃ ls, handleCommand fuel buf = .ok ls := by
  intro fuel
  induction fuel with
  | zero => exact fun _ => ⟨[], rfl⟩
  | succ n ih =>
    intro buf
    cases buf with
    | nil => exact ⟨[], rfl⟩
    | cons t body =>
      simp only [handleCommand]
      -- a compound message folds over its parts; every other type byte is dispatched to a leaf
      refine ite_ind ?_ (ite_ind ⟨_, rfl⟩ (ite_ind ⟨_, rfl⟩ (ite_ind ⟨_, rfl⟩ ⟨_, rfl⟩)))
      cases decodeCompound body with
      | error e => exact ⟨[], rfl⟩
      | ok tp => exact foldParts_ok (handleCommand n) tp.2 (fun p _ => ih p) []

/-- The nesting depth of compound messages is bounded by the length of the packet: once the fuel exceeds the
buffer length, more fuel changes nothing - the dispatcher has reached every leaf. (`ingestPacket` calls it
with `length + 1`.) -/
theorem C13_compound_terminates : ∀ (fuel : Nat) (buf : Bytes), buf.length < fuel →
    handleCommand (fuel + 1) buf = handleCommand fuel buf := by
  intro fuel
  induction fuel with
  | zero => exact fun _ h => nomatch h
  | succ n ih =>
    intro buf h
    cases buf with
    | nil => rfl
    | cons t body =>
      simp only [handleCommand]
      by_cases h1 : t.toNat = Gen.c_compoundMsg
      · rw [if_pos h1, if_pos h1]
        cases hd : decodeCompound body with
        | error e => rfl
        | ok tp =>
          -- the parts are shorter than the message, so the smaller fuel is still enough for each
          refine foldParts_congr _ _ tp.2 (fun p hp => ih p ?_) []
          exact Nat.lt_trans (decodeCompound_part_length_lt body tp.1 tp.2 hd p hp) (Nat.lt_of_succ_lt_succ h)
      · rw [if_neg h1, if_neg h1]

theorem unCrc_no_panic (crcOk : Bytes → Bytes → Bool) (buf : Bytes) : unCrc crcOk buf ≠ .error .panic := by
  unfold unCrc
  by_cases h : buf.length ≥ 5 ∧ (buf.head?.map (·.toNat)) = some Gen.c_hasCrcMsg
  · rw [if_pos h, slice_ok ⟨by decide, h.1⟩, sliceFrom_ok h.1]
    show (if crcOk _ _ = true then _ else _) ≠ _
    exact ite_ind (by nofun) (by nofun)
  · rw [if_neg h]
    nofun

theorem decLayer_no_panic (A : Aead) (c : RxCfg) (l b1 : Bytes) : decLayer A c l b1 ≠ .error .panic := by
  unfold decLayer
  refine ite_ind (by nofun) ?_
  cases hd : decryptPayload A c.keys b1 l with
  | ok p => nofun
  | error f =>
    cases f with
    | panic => exact absurd hd (C13_decrypt_no_panic A c.keys b1 l)
    | drop w =>
      dsimp only
      exact ite_ind (by nofun) (by nofun)

/-- No byte string arriving as a packet makes the packet path panic, under every label /
SkipInboundLabelCheck / keyring / verify-incoming configuration. -/
theorem C13_ingest_no_panic (A : Aead) (crcOk : Bytes → Bytes → Bool) (c : RxCfg) (buf : Bytes) :
    ingestPacket A crcOk c buf ≠ .error .panic := by
  unfold ingestPacket
  cases removeLabel buf with
  | error e => nofun
  | ok pr =>
    dsimp only
    cases labelGate c.label c.skipInbound pr.2 with
    | none => nofun
    | some l =>
      dsimp only
      -- an error of the decryption or checksum layer is passed on as it is
      cases hd : decLayer A c l pr.1 with
      | error f =>
        intro e
        cases e
        exact decLayer_no_panic A c l pr.1 hd
      | ok b2 =>
        dsimp only
        cases hu : unCrc crcOk b2 with
        | error f =>
          intro e
          cases e
          exact unCrc_no_panic crcOk b2 hu
        | ok b3 =>
          obtain ⟨ls, hls⟩ := C13_handleCommand_total (b3.length + 1) b3
          exact fun e => nomatch hls.symm.trans e

/-- A packet whose label the receiver does not accept yields no command at all, whatever else it contains. -/
theorem C13_foreign_label_no_effect (A : Aead) (crcOk : Bytes → Bytes → Bool) (c : RxCfg) (buf b1 carried : Bytes)
    (hr : removeLabel buf = .ok (b1, carried)) (hg : labelGate c.label c.skipInbound carried = none) :
    ingestPacket A crcOk c buf = .error (.drop "unacceptable label") := by
  simp [ingestPacket, hr, hg]

/-- With a keyring and incoming verification on, a packet that does not decrypt yields no command. -/
theorem C13_undecryptable_no_effect (A : Aead) (crcOk : Bytes → Bytes → Bool) (c : RxCfg) (buf b1 carried l : Bytes)
    (w : String)
    (hr : removeLabel buf = .ok (b1, carried)) (hg : labelGate c.label c.skipInbound carried = some l)
    (hk : c.keys.isEmpty = false) (hv : c.verifyIncoming = true)
    (hd : decryptPayload A c.keys b1 l = .error (.drop w)) :
    ingestPacket A crcOk c buf = .error (.drop w) := by
  simp [ingestPacket, hr, hg, decLayer, hk, hv, hd]

/-- fact theorem: the documented resource caps, as compiled -/
theorem C13_caps :
    Gen.c_maxPushStateBytes = 20 * 1024 * 1024 ∧ Gen.c_maxPushStateNodes = 1024 * 1024 ∧
    Gen.c_maxUserMsgBytes = 20 * 1024 * 1024 ∧ Gen.c_maxPushPullRequests = 128 ∧
    Gen.c_maxDecompressedBytes = 2 * Gen.c_maxPushStateBytes := by decide

end Swim.Ingest
