import Swim.Props.C05
import Swim.Props.C04Cluster
/-!
# C05: from every reachable state an accusation against a running member can be cleared
`C05_cluster_recoverable`: a continuation of at most three protocol steps, built with explicit pool indices, clears it.
Nothing else in the cluster has to cooperate; the only assumption about counters is that the history has fewer than 2^32
steps (no incarnation counter wraps), and none is made about addresses (an invariant). Whether the protocol's random
choices take such a path in bounded time is the timing part, observed by the simulator (known finding: stable split).
-/
namespace Swim.Cluster
open Swim.Merge

theorem override_at (y : Node) (a : AliveMsg) (env : Env) (r : Rec)
    (hne : a.node ≠ y.cfg.self) (hl : lookup y.recs a.node = some r) (hv : vsnBad a.vsn = false)
    (hdel : y.cfg.hasAliveDelegate = false) (hsame : r.addr = a.addr ∧ r.port = a.port) (hnewer : r.inc < a.inc) :
    ∃ r', lookup (aliveNode y a false false env).1.recs a.node = some r' ∧ r'.st = .alive :=
  let ⟨⟨r', h1, h2, _⟩, _⟩ := C05_accusation_overridden y a false false env r hne hl hv (by simp [hdel]) hsame hnewer
  ⟨r', h1, h2⟩

/-- the accusation is below the member's current incarnation: a state exchange from `X` clears it -/
theorem recover_standing (w : World) (k : Nat) (hinv : GInv w k) (X y : Node) (hX : X ∈ w.nodes) (hy : y ∈ w.nodes)
    (me r : Rec) (hme : selfRec X = some me) (hal : me.st = .alive) (hr : r ∈ y.recs) (hrn : r.name = X.cfg.self)
    (hne : X.cfg.self ≠ y.cfg.self) (hlt : r.inc < me.inc) (hv : vsnBad me.vsn = false)
    (hdel : y.cfg.hasAliveDelegate = false) (env : Env) :
    ∃ j, ∃ y', nodeAt (w.run [.snapshot X.cfg.self, .deliver y.cfg.self (w.pool.length + j) env]) y.cfg.self = some y' ∧
      ∃ r', lookup y'.recs X.cfg.self = some r' ∧ r'.st = .alive := by
  obtain ⟨_, haddr, hl⟩ := accusation_facts hinv hX hy hme hr hrn hne
  obtain ⟨j, hj⟩ := exchange_self hinv hX hy hme env
  refine ⟨j, _, hj, ?_⟩
  have hnode : (aliveOfState (stateOfRec me)).node = X.cfg.self := lookup_name hme
  rw [receive_state_alive _ env (show (stateOfRec me).st = .alive from hal), ← hnode]
  exact override_at y (aliveOfState (stateOfRec me)) env r (by rw [hnode]; exact hne) (by rw [hnode]; exact hl) hv hdel
    haddr hlt

/-- the accusation is at the member's current incarnation: the holder's state exchange makes the member refute, and the
refutation clears the accusation at the holder -/
theorem recover_refute (w : World) (k : Nat) (hinv : GInv w k) (hk : k + 1 < u32) (X y : Node)
    (hX : X ∈ w.nodes) (hy : y ∈ w.nodes)
    (me r : Rec) (hme : selfRec X = some me) (hal : me.st = .alive)
    (hr : r ∈ y.recs) (hrn : r.name = X.cfg.self) (hne : X.cfg.self ≠ y.cfg.self) (heq : r.inc = me.inc)
    (hacc : r.st = .suspect ∨ r.st = .dead) (hv : vsnBad me.vsn = false)
    (hdel : y.cfg.hasAliveDelegate = false) (envX envy : Env) :
    ∃ j, ∃ y', nodeAt (w.run [.snapshot y.cfg.self, .deliver X.cfg.self (w.pool.length + j) envX,
        .deliver y.cfg.self (w.pool.length + y.recs.length) envy]) y.cfg.self = some y' ∧
      ∃ r', lookup y'.recs X.cfg.self = some r' ∧ r'.st = .alive := by
  obtain ⟨_, haddr, hl⟩ := accusation_facts hinv hX hy hme hr hrn hne
  have hsi := hinv.selfInc_le hX
  have f1 := (hinv.self hX me hme).1
  have hmn : me.name = X.cfg.self := lookup_name hme
  obtain ⟨j, hj⟩ := List.mem_iff_getElem?.mp hr
  refine ⟨j, ?_⟩
  simp only [World.run, List.foldl_cons, List.foldl_nil]
  -- `y` sends its state list
  have sn := snapshot_nodeAt w y.cfg.self
  have sp := snapshot_pool (nodeAt_of_mem hinv.1 hy)
  generalize w.step (.snapshot y.cfg.self) = w1 at sn sp
  -- `X` is handed the accusation and refutes it: the refutation is the last claim in the pool
  have hpj : w1.pool[w.pool.length + j]? = some (.state (stateOfRec r)) := by rw [sp]; exact pool_index _ _ _ _ hj
  have hnX := (sn _).trans (nodeAt_of_mem hinv.1 hX)
  have ap := deliver_pool (env := envX) hpj hnX
  have an := deliver_nodeAt (env := envX) hpj hnX y.cfg.self
  generalize w1.step (.deliver X.cfg.self (w.pool.length + j) envX) = w2 at ap an
  rw [if_neg hne, sn, nodeAt_of_mem hinv.1 hy] at an
  have hR : lookup (setRec X.recs { me with inc := X.selfInc + 1 }) me.name = some { me with inc := X.selfInc + 1 } :=
    lookup_setRec_of_some (show lookup X.recs me.name = some me from hmn ▸ hme) rfl
  rw [accusation_refuted hinv hX hme hal hrn hacc (Nat.le_of_eq heq.symm) envX,
    refute_eq X me r.inc (heq ▸ f1) (Nat.lt_of_le_of_lt (Nat.succ_le_succ hsi) hk), List.flatMap_singleton,
    emit_refute _ _ me.name _ _ hR] at ap
  -- `y` is handed the refutation
  have hpi : w2.pool[w.pool.length + y.recs.length]? = some (.alive (aliveOfRec { me with inc := X.selfInc + 1 })) := by
    rw [ap, List.getElem?_append_right (by rw [sp]; simp)]
    simp [sp]
  rw [deliver_nodeAt hpi an, if_pos rfl]
  refine ⟨_, rfl, ?_⟩
  have hnode : (aliveOfRec { me with inc := X.selfInc + 1 }).node = X.cfg.self := hmn
  have := override_at y (aliveOfRec { me with inc := X.selfInc + 1 }) envy r (by rw [hnode]; exact hne)
    (by rw [hnode]; exact hl) hv hdel haddr (Nat.lt_succ_of_le (heq ▸ f1))
  rwa [hnode] at this

/-- In every reachable state of the cluster model: if a node `y` holds a running member `X` (own record alive, Leave not
called) as suspect or dead, there is a continuation of at most three steps - a state exchange, `X`'s refutation where
one is needed, and its delivery to `y` - after which `y` holds `X` alive again. Conditions on `y`'s admission filters
only: `X` announces sane protocol versions and `y` has no alive delegate. -/
theorem C05_cluster_recoverable (w0 : World) (ops : List COp) (hfresh : Fresh w0) (hlen : ops.length + 1 < u32)
    (X y : Node) (hX : X ∈ (w0.run ops).nodes) (hy : y ∈ (w0.run ops).nodes)
    (me r : Rec) (hme : selfRec X = some me) (hal : me.st = .alive) (hrun : X.hasLeft = false)
    (hr : r ∈ y.recs) (hrn : r.name = X.cfg.self) (hne : X.cfg.self ≠ y.cfg.self)
    (hacc : r.st = .suspect ∨ r.st = .dead) (hv : vsnBad me.vsn = false) (hdel : y.cfg.hasAliveDelegate = false) :
    ∃ cont : List COp, cont.length ≤ 3 ∧ ∃ y', nodeAt ((w0.run ops).run cont) y.cfg.self = some y' ∧
      ∃ r', lookup y'.recs X.cfg.self = some r' ∧ r'.st = .alive := by
  have hinv := ginv_reachable ops hfresh (Nat.lt_of_succ_lt hlen)
  have env : Env := { now := 0, ipAllowed := true, delegateOk := true, offset := 0 }
  obtain ⟨hle, _, _⟩ := accusation_facts hinv hX hy hme hr hrn hne
  by_cases hlt : r.inc < me.inc
  · obtain ⟨j, y', h1, h2⟩ := recover_standing _ _ hinv X y hX hy me r hme hal hr hrn hne hlt hv hdel env
    exact ⟨_, by simp, y', h1, h2⟩
  · obtain ⟨j, y', h1, h2⟩ := recover_refute _ _ hinv hlen X y hX hy me r hme hal hr hrn hne (Nat.le_antisymm hle (Nat.not_lt.mp hlt)) hacc hv hdel env env
    exact ⟨_, by simp, y', h1, h2⟩

/-! ### Non-vacuity: a reachable state in which `b` holds the running `a` as suspect -/

def accusedWorld : World :=
  demoWorld.run [ .announce "a" 1 7946 10 [1, 5, 2, 0, 0, 0] (demoEnv 1), .announce "b" 2 7946 20 [1, 5, 2, 0, 0, 0] (demoEnv 2),
    .deliver "b" 0 (demoEnv 3), .deliver "a" 1 (demoEnv 4), .probeFail "b" "a" (demoEnv 5) ]

/-- the hypotheses of `C05_cluster_recoverable` are met with X = a, y = b, both at incarnation 1: the case of
`recover_refute` -/
example : accusedWorld.nodes.map (fun n => (n.cfg.self, n.recs.map (fun r => (r.name, r.inc, r.st)))) =
      [("a", [("a", 1, .alive), ("b", 1, .alive)]), ("b", [("b", 1, .alive), ("a", 1, .suspect)]), ("c", [])] ∧
    accusedWorld.nodes.all (fun n => !n.hasLeft && !n.cfg.hasAliveDelegate && n.recs.all (fun r => !vsnBad r.vsn)) = true := by
  decide

end Swim.Cluster
