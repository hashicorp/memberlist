import Swim.Model.Queue
import Swim.Lemmas.List
/-!
# C10  Broadcast queue: no silent loss, exactly-once completion, bounded retransmits

Theorems over `Swim.Model.Queue`, for every operation sequence. `Less` is the lexicographic order of a `key`, and
`pickMin` returns a least element of it. One invariant `Inv` is kept by every operation: `GetBroadcasts`, `Prune` and
`Reset` all turn the items into "some kept, some finished, transmit counts aside" and go through `inv_of_perm`;
`QueueBroadcast` is such a removal followed by `inv_push`. The tier walk is reasoned about through `getLoop_ind` (a
predicate kept by every hand-out holds at the end).
-/
namespace Swim.Queue

/-- the key `Less` (queue.go, `limitedBroadcast.Less`) compares: fewer transmits, then longer, then newer -/
def key (a : Item) : List Int := [a.tx, -a.len, -a.id]

/-- `Less` is the lexicographic order of the keys: that it is a strict weak order is core's theory of `<` on lists -/
theorem less_iff (a b : Item) : less a b = true ↔ key a < key b := by
  simp only [key, List.cons_lt_cons_iff, List.lt_irrefl, and_false, or_false, Int.ofNat_lt, Int.neg_lt_neg_iff,
    Int.neg_inj, Int.ofNat_inj]
  -- what is left has the same case split on `tx`, `len`, `id` on both sides
  unfold less; grind

theorem less_irrefl (z : Item) : less z z = false :=
  Bool.eq_false_iff.mpr fun h => List.lt_irrefl _ ((less_iff z z).mp h)

theorem less_asymm (a b : Item) (h : less a b = true) : less b a = false :=
  Bool.eq_false_iff.mpr fun h' => List.lt_asymm ((less_iff a b).mp h) ((less_iff b a).mp h')

theorem less_negtrans (a b c : Item) (h1 : less a b = false) (h2 : less b c = false) :
    less a c = false := by
  rw [← Bool.not_eq_true, less_iff, List.not_lt] at *
  exact List.le_trans h2 h1

theorem pickMin_mem {l : List Item} {k : Item} (h : pickMin l = some k) : k ∈ l := by
  -- the result is the head, or the result for the tail
  fun_induction pickMin l <;> simp_all

theorem pickMin_none {l : List Item} (h : pickMin l = none) : l = [] := by
  -- on `x :: xs` every branch returns `some`
  fun_induction pickMin l <;> simp_all

theorem pickMax_mem {l : List Item} {k : Item} (h : pickMax l = some k) : k ∈ l := by
  -- as for `pickMin`: the head, or the result for the tail
  fun_induction pickMax l <;> simp_all

theorem pickMin_least {l : List Item} {k : Item} (h : pickMin l = some k) :
    ∀ x ∈ l, less x k = false := by
  fun_induction pickMin l generalizing k with
  | case1 => simp
  | case2 x xs hn ih =>
    cases h
    simp [pickMin_none hn, less_irrefl]
  | case3 x xs y hy hlt ih =>
    cases h
    intro z hz
    rcases List.mem_cons.mp hz with rfl | hz
    · exact less_asymm _ _ hlt
    · exact ih hy z hz
  | case4 x xs y hy hlt ih =>
    cases h
    intro z hz
    rcases List.mem_cons.mp hz with rfl | hz
    · exact less_irrefl z
    · exact less_negtrans z y x (ih hy z hz) (by simpa using hlt)

def uids (l : List Item) : List Nat := l.map (·.uid)
def ids (l : List Item) : List Nat := l.map (·.id)

theorem removeId_sublist (l : List Item) (id : Nat) : (removeId l id).Sublist l :=
  List.filter_sublist

theorem removeId_nodup {l : List Item} (id : Nat) (hn : (ids l).Nodup) : (ids (removeId l id)).Nodup :=
  hn.map_filter _

theorem removeId_perm {l : List Item} {k : Item} (hn : (ids l).Nodup) (hk : k ∈ l) :
    (k :: removeId l k.id).Perm l := by
  have hl : l.Nodup := hn.of_map _ fun _ _ h e => h (e ▸ rfl)
  have : removeId l k.id = l.erase k := by
    rw [hl.erase_eq_filter]
    refine List.filter_congr fun x hx => ?_
    by_cases e : x = k
    · simp [e]
    · rw [bne_iff_ne.mpr e, bne_iff_ne.mpr fun h => e (List.eq_of_nodup_map hn hx hk h)]
  exact this ▸ (List.perm_cons_erase hk).symm

theorem removeId_length {l : List Item} {k : Item} (hn : (l.map (·.id)).Nodup) (hk : k ∈ l) :
    (removeId l k.id).length + 1 = l.length := by
  have := (removeId_perm hn hk).length_eq
  simpa using this

/-- one step of a loop that moves items from `l` to the end of `done`, as `GetBroadcasts` and `Prune` do -/
theorem removeId_append_perm {l : List Item} {k : Item} (hn : (ids l).Nodup) (hk : k ∈ l) (done : List Item) :
    (removeId l k.id ++ (done ++ [k])).Perm (l ++ done) := by
  have := (removeId_perm hn hk).append_right done
  simpa using (List.perm_append_singleton k _).trans this

/-- an item with its transmit count forgotten: the count is all that a retrieval changes of an item it re-queues -/
def core (x : Item) : Item := { x with tx := 0 }

@[simp] theorem core_id (x : Item) : (core x).id = x.id := rfl
@[simp] theorem core_uid (x : Item) : (core x).uid = x.uid := rfl
@[simp] theorem core_name (x : Item) : (core x).name = x.name := rfl
@[simp] theorem core_bump (x : Item) : core (bump x) = core x := rfl

theorem ids_core (l : List Item) : ids (l.map core) = ids l := by
  simp [ids, List.map_map, Function.comp_def]

theorem uids_core (l : List Item) : uids (l.map core) = uids l := by
  simp [uids, List.map_map, Function.comp_def]

/-- ids are unique, positive and were handed out by the current generator epoch -/
def IdsOk (l : List Item) (idGen : Nat) : Prop :=
  (ids l).Nodup ∧ ∀ x ∈ l, 1 ≤ x.id ∧ x.id ≤ idGen

/-- at most one queued broadcast per non-empty name -/
def NamesOk (l : List Item) : Prop :=
  ∀ x ∈ l, ∀ y ∈ l, x.name ≠ "" → x.name = y.name → x.id = y.id

/-- conservation: queued uids and finished uids together are exactly the submitted ones, each once -/
def Conserved (q : Q) : Prop := (uids q.items ++ q.finished).Perm (List.range q.nextUid)

def Inv (q : Q) : Prop := IdsOk q.items q.idGen ∧ NamesOk q.items ∧ Conserved q

theorem inv_empty : Inv {} :=
  ⟨⟨List.nodup_nil, by simp⟩, fun x hx => (nomatch hx), by simp [Conserved, uids]⟩

theorem inv_of_perm (q : Q) (r done : List Item) (h : Inv q)
    (hp : ((r ++ done).map core).Perm (q.items.map core)) :
    Inv { q with items := r, idGen := if r.isEmpty then 0 else q.idGen,
                 finished := q.finished ++ done.map (·.uid) } := by
  obtain ⟨hids, hnames, hcons⟩ := h
  -- every kept item is a queued item with another transmit count
  have hmem : ∀ x ∈ r, ∃ y ∈ q.items, y.id = x.id ∧ y.name = x.name := fun x hx => by
    obtain ⟨y, hy, e⟩ := List.mem_map.mp (hp.mem_iff.mp (List.mem_map_of_mem (List.mem_append_left _ hx)))
    exact ⟨y, hy, by simpa using congrArg Item.id e, by simpa using congrArg Item.name e⟩
  refine ⟨⟨?_, fun x hx => ?_⟩, fun x hx y hy => ?_, ?_⟩
  · have : (ids ((r ++ done).map core)).Nodup := 
      (hp.map _).nodup_iff.mpr (show (ids (q.items.map core)).Nodup from (ids_core _).symm ▸ hids.1)
    rw [ids_core, ids, List.map_append] at this
    exact (List.nodup_append.mp this).1
  · obtain ⟨y, hy, e, _⟩ := hmem x hx
    cases r with
    | nil => cases hx
    | cons => exact e ▸ hids.2 y hy
  · obtain ⟨x', hx', ex, nx⟩ := hmem x hx
    obtain ⟨y', hy', ey, ny⟩ := hmem y hy
    exact ex ▸ ey ▸ nx ▸ ny ▸ hnames x' hx' y' hy'
  · have hu := hp.map (·.uid)
    rw [← uids, ← uids, uids_core, uids_core, uids, List.map_append] at hu
    refine .trans ?_ ((hu.append_right q.finished).trans hcons)
    simp only [uids, List.append_assoc]
    exact List.perm_append_comm.append_left _

theorem inv_push (q : Q) (lb : Item) (h : Inv q) (hid : q.idGen < lb.id) (huid : lb.uid = q.nextUid)
    (hname : ∀ z ∈ q.items, lb.name ≠ "" → z.name ≠ lb.name) :
    Inv { q with items := lb :: q.items, idGen := lb.id, nextUid := q.nextUid + 1 } := by
  obtain ⟨⟨hnd, hrange⟩, hnames, hcons⟩ := h
  refine ⟨⟨List.nodup_cons.mpr ⟨fun hm => ?_, hnd⟩, fun x hx => ?_⟩, fun x hx y hy hne heq => ?_, ?_⟩
  · obtain ⟨x, hx, e⟩ := List.mem_map.mp hm
    have e : x.id = lb.id := e
    exact Nat.not_le_of_lt hid (e ▸ (hrange x hx).2)
  · rcases List.mem_cons.mp hx with rfl | hx
    · exact ⟨Nat.succ_le_of_lt (Nat.zero_lt_of_lt hid), Nat.le_refl _⟩
    · exact ⟨(hrange x hx).1, Nat.le_trans (hrange x hx).2 (Nat.le_of_lt hid)⟩
  · rcases List.mem_cons.mp hx with rfl | hx' <;> rcases List.mem_cons.mp hy with rfl | hy'
    · rfl
    · exact absurd heq.symm (hname y hy' hne)
    · exact absurd heq (hname x hx' (heq ▸ hne))
    · exact hnames x hx' y hy' hne heq
  · simp only [Conserved, uids, List.map_cons, List.cons_append, List.range_succ, huid]
    exact (hcons.cons _).trans (List.perm_append_singleton _ _).symm

theorem victimP_name {items : List Item} {lb z : Item} (hnames : NamesOk items)
    (hz : z ∈ items.filter (fun x => !victimP items lb x)) (hlbn : lb.name ≠ "") : z.name ≠ lb.name := by
  intro hzn
  obtain ⟨hzmem, hzv⟩ := List.mem_filter.mp hz
  unfold victimP at hzv
  simp only [hlbn, ne_eq, not_false_eq_true, ↓reduceIte] at hzv
  cases hv : items.find? (fun x => x.name == lb.name) with
  | some v =>
    have hvn : v.name = lb.name := by simpa using List.find?_some hv
    have := hnames z hzmem v (List.mem_of_find?_eq_some hv) (hzn ▸ hlbn) (hzn.trans hvn.symm)
    simp [hv, this] at hzv
  | none => simpa [hzn] using List.find?_eq_none.mp hv z hzmem

theorem queueWith_inv (q : Q) (lb : Item) (h : Inv q) (hid : lb.id = q.idGen + 1)
    (huid : lb.uid = q.nextUid) : Inv (queueWith q lb) := by
  have h1 := inv_of_perm q _ (q.items.filter (victimP q.items lb)) h
    (((List.filter_append_perm (victimP q.items lb) q.items).symm.trans List.perm_append_comm).symm.map core)
  refine inv_push _ lb h1 ?_ huid fun z hz => victimP_name h.2.1 hz
  show (if _ then 0 else q.idGen) < lb.id
  split <;> omega

theorem queue_inv (q : Q) (kind : Kind) (name : String) (subj len : Nat) (h : Inv q) :
    Inv (queue q kind name subj len) :=
  queueWith_inv q _ h rfl rfl

theorem pickStep_eq (o tl : Int) (s : GetSt) (k : Item) : pickStep o tl s k =
    { items := removeId s.items k.id, used := s.used + o + k.len, out := s.out ++ [k],
      reins := if (k.tx : Int) + 1 ≥ tl then s.reins else s.reins ++ [bump k],
      done := if (k.tx : Int) + 1 ≥ tl then s.done ++ [k] else s.done } := by
  unfold pickStep; split <;> rfl

@[simp] theorem pickStep_items (o tl : Int) (s : GetSt) (k : Item) :
    (pickStep o tl s k).items = removeId s.items k.id := by rw [pickStep_eq]

@[simp] theorem pickStep_used (o tl : Int) (s : GetSt) (k : Item) :
    (pickStep o tl s k).used = s.used + o + k.len := by rw [pickStep_eq]

@[simp] theorem pickStep_out (o tl : Int) (s : GetSt) (k : Item) :
    (pickStep o tl s k).out = s.out ++ [k] := by rw [pickStep_eq]

theorem getLoop_ind (o l tl : Int) (P : GetSt → Prop)
    (hstep : ∀ s t k, P s → pickMin (cands s t (l - s.used - o)) = some k → 0 < l - s.used - o →
      P (pickStep o tl s k))
    (fuel t maxT : Nat) (s : GetSt) (h : P s) :
    P (getLoop o l tl fuel t maxT s) := by
  fun_induction getLoop o l tl fuel t maxT s with
  | case1 | case2 | case3 => exact h
  | case4 _ _ _ _ _ _ _ ih => exact ih h
  | case5 _ t _ s _ hfree k hp ih => exact ih (hstep s t k h hp (Int.lt_of_not_ge hfree))

theorem mem_cands {s : GetSt} {t : Nat} {free : Int} {x : Item} :
    x ∈ cands s t free ↔ x ∈ s.items ∧ x.tx = t ∧ (x.len : Int) ≤ free := by
  simp [cands]

theorem pickMin_cands {s : GetSt} {t : Nat} {free : Int} {k : Item}
    (h : pickMin (cands s t free) = some k) :
    k ∈ s.items ∧ k.tx = t ∧ (k.len : Int) ≤ free :=
  mem_cands.mp (pickMin_mem h)

/-- Each hand-out is the `Less`-least item of its tier that still fits: less transmitted first is the tier walk,
then larger, then newer. -/
theorem C10_pick_is_least {s : GetSt} {t : Nat} {free : Int} {k : Item}
    (h : pickMin (cands s t free) = some k) :
    k ∈ s.items ∧ k.tx = t ∧ (k.len : Int) ≤ free ∧
      ∀ x ∈ s.items, x.tx = t → (x.len : Int) ≤ free → less x k = false := by
  obtain ⟨h1, h2, h3⟩ := pickMin_cands h
  exact ⟨h1, h2, h3, fun x hx ht hl => pickMin_least h x (mem_cands.mpr ⟨hx, ht, hl⟩)⟩

/-- The walk moves to the next tier only when no item of the current tier fits any more. -/
theorem C10_advance_only_if_exhausted {s : GetSt} {t : Nat} {free : Int}
    (h : pickMin (cands s t free) = none) :
    ∀ x ∈ s.items, x.tx = t → ¬ (x.len : Int) ≤ free :=
  fun _ hx ht hl => List.not_mem_nil (pickMin_none h ▸ mem_cands.mpr ⟨hx, ht, hl⟩)

/-- what is still queued and what was handed out are together the items the call started with -/
def PermP (orig : List Item) (s : GetSt) : Prop :=
  (ids s.items).Nodup ∧ (s.items ++ s.out).Perm orig

theorem getRun_perm (q : Q) (o l tl : Int) (h : (ids q.items).Nodup) :
    PermP q.items (getRun q o l tl) := by
  refine getLoop_ind o l tl (PermP q.items) (fun s t k hs hp _ => ?_) _ _ _ _ ⟨h, by simp⟩
  exact ⟨by simpa using removeId_nodup k.id hs.1,
    .trans (by simpa using removeId_append_perm hs.1 (pickMin_cands hp).1 s.out) hs.2⟩

/-- a hand-out is finished or goes back one tier up, by the retransmit limit of the call -/
def LimitP (tl : Int) (s : GetSt) : Prop :=
  s.done = s.out.filter (fun k => decide ((k.tx : Int) + 1 ≥ tl)) ∧
  s.reins = (s.out.filter (fun k => !decide ((k.tx : Int) + 1 ≥ tl))).map bump

theorem getRun_limit (q : Q) (o l tl : Int) : LimitP tl (getRun q o l tl) := by
  refine getLoop_ind o l tl (LimitP tl) (fun s t k hs _ _ => ?_) _ _ _ _ ⟨rfl, rfl⟩
  rw [pickStep_eq]
  by_cases hc : (k.tx : Int) + 1 ≥ tl <;> simp [LimitP, List.filter_append, hs.1, hs.2, hc]

theorem get_inv (q : Q) (o l tl : Int) (h : Inv q) : Inv (get q o l tl).1 := by
  by_cases he : q.items.isEmpty
  · rw [get, if_pos he]; exact h
  · rw [get, if_neg he]
    obtain ⟨hd, hr⟩ := getRun_limit q o l tl
    refine inv_of_perm q _ _ h (.trans ?_ ((getRun_perm q o l tl h.1.1).2.map core))
    -- finished and re-queued hand-outs are all hand-outs, bumping aside
    have := (List.filter_append_perm (fun k => decide ((k.tx : Int) + 1 ≥ tl)) (getRun q o l tl).out).map core
    rw [hd, hr]
    simp only [List.map_append, List.map_map, Function.comp_def, core_bump, List.append_assoc] at this ⊢
    refine .trans ?_ (this.append_left _)
    exact (List.perm_append_comm (l₂ := _ ++ _)).trans (by rw [List.append_assoc])

theorem pruneLoop_perm (m : Int) (fuel : Nat) (items done : List Item) (hn : (ids items).Nodup) :
    ((pruneLoop m fuel items done).1 ++ (pruneLoop m fuel items done).2).Perm (items ++ done) := by
  fun_induction pruneLoop m fuel items done with
  | case1 | case2 | case4 => exact .refl _
  | case3 _ items done _ k hm ih =>
    exact (ih (removeId_nodup k.id hn)).trans (removeId_append_perm hn (pickMax_mem hm) done)

theorem prune_inv (q : Q) (m : Int) (h : Inv q) : Inv (prune q m) :=
  inv_of_perm q _ _ h (by simpa using (pruneLoop_perm m q.items.length q.items [] h.1.1).map core)

theorem reset_inv (q : Q) (h : Inv q) : Inv (reset q) := by
  simpa [reset] using inv_of_perm q [] q.items h (by simp)

theorem step_inv (q : Q) (op : Op) (h : Inv q) : Inv (step q op) := by
  cases op with
  | queue k n s l => exact queue_inv q k n s l h
  | get o l tl => exact get_inv q o l tl h
  | prune m => exact prune_inv q m h
  | reset => exact reset_inv q h
  | num => exact h

theorem run_inv (q : Q) (ops : List Op) (h : Inv q) : Inv (run q ops) :=
  List.foldlRecOn (motive := Inv) ops _ h fun q h op _ => step_inv q op h

/-- After any sequence of QueueBroadcast / GetBroadcasts / Prune / Reset / NumQueued calls on a fresh queue: ids unique,
at most one broadcast per non-empty name, and conservation. -/
theorem C10_inv (ops : List Op) : Inv (run {} ops) := run_inv _ ops inv_empty

/-- Conservation: after any history every submitted broadcast is either still queued or finished, never both, and
finished at most once. -/
theorem C10_conservation (ops : List Op) :
    let q := run {} ops
    (∀ u, u < q.nextUid ↔ (u ∈ uids q.items ∨ u ∈ q.finished)) ∧
    (∀ u, u ∈ uids q.items → u ∉ q.finished) ∧
    q.finished.Nodup ∧ (uids q.items).Nodup := by
  intro q
  have hc : Conserved q := (C10_inv ops).2.2
  obtain ⟨h1, h2, h3⟩ := List.nodup_append.mp (hc.nodup_iff.mpr List.nodup_range)
  refine ⟨fun u => ?_, fun u hu hf => h3 u hu u hf rfl, h2, h1⟩
  rw [← List.mem_range, ← hc.mem_iff, List.mem_append]

/-- at most one queued broadcast per non-empty name, after any history -/
theorem C10_one_per_name (ops : List Op) : NamesOk (run {} ops).items := (C10_inv ops).2.1

def sizeSum (o : Int) (out : List Item) : Int := (out.map fun k => o + (k.len : Int)).foldl (· + ·) 0

theorem foldl_add_shift (l : List Int) (a : Int) : l.foldl (· + ·) a = a + l.foldl (· + ·) 0 := by
  induction l generalizing a with
  | nil => simp
  | cons x xs ih => simp only [List.foldl_cons]; rw [ih (a + x), ih (0 + x)]; omega

theorem sizeSum_append (o : Int) (out : List Item) (k : Item) :
    sizeSum o (out ++ [k]) = sizeSum o out + (o + k.len) := by
  simp only [sizeSum, List.map_append, List.map_cons, List.map_nil, List.foldl_append,
    List.foldl_cons, List.foldl_nil]

/-- the space used is the size of the hand-outs, and stays within the limit once something is handed out -/
def FitsP (o l : Int) (s : GetSt) : Prop := s.used = sizeSum o s.out ∧ (s.out ≠ [] → s.used ≤ l)

theorem getRun_fits (q : Q) (o l tl : Int) : FitsP o l (getRun q o l tl) := by
  refine getLoop_ind o l tl (FitsP o l) (fun s t k hs hp _ => ?_) _ _ _ _ ⟨rfl, by simp⟩
  have := (pickMin_cands hp).2.2
  rw [FitsP, pickStep_used, pickStep_out, sizeSum_append]
  exact ⟨by rw [hs.1, Int.add_assoc], fun _ => by omega⟩

/-- The sizes of the returned messages plus the per-message overhead fit the limit. -/
theorem C10_get_fits (q : Q) (o l tl : Int) :
    (get q o l tl).2 ≠ [] → sizeSum o (get q o l tl).2 ≤ l := by
  by_cases he : q.items.isEmpty
  · rw [get, if_pos he]; exact fun h => absurd rfl h
  · rw [get, if_neg he]
    exact fun hne => (getRun_fits q o l tl).1 ▸ (getRun_fits q o l tl).2 hne

/-- A retrieval finishes exactly the handed-out items whose transmit count reaches the retransmit limit of *that* call,
and re-queues every other handed-out item one tier up; nothing that was not handed out is finished. -/
theorem C10_limit_exact (q : Q) (o l tl : Int) (hne : q.items.isEmpty = false) :
    let s := getRun q o l tl
    (get q o l tl).2 = s.out ∧
    (get q o l tl).1.finished = q.finished ++ (s.out.filter (fun k => decide ((k.tx : Int) + 1 ≥ tl))).map (·.uid) ∧
    (get q o l tl).1.items = (s.out.filter (fun k => !decide ((k.tx : Int) + 1 ≥ tl))).map bump ++ s.items := by
  intro s
  have hl := getRun_limit q o l tl
  simp only [get, hne, Bool.false_eq_true, ↓reduceIte]
  exact ⟨rfl, by rw [hl.1], by rw [hl.2]⟩

/-- the input that lost a broadcast in the pinned tree (known_findings `fixed:` C10 c5de6b0):
Queue A(5); Get(2,7); Queue B(5); both stay accounted for. -/
example :
    let q := run {} [.queue .plain "" 0 5, .get 2 7 4, .queue .plain "" 1 5]
    uids q.items = [1, 0] ∧ q.finished = [] ∧ (q.items.map (·.id)) = [2, 1] := by decide

end Swim.Queue
