import Swim.Lemmas.Rules
/-!
# C01  Stale or weaker membership claims never override newer knowledge

The view a node holds of a member other than itself (its view of itself is C02): no rule moves it backwards in the
precedence order `key` / `kle`, except a legitimate takeover of the name (`takeover`) and reaping.
-/
namespace Swim.Merge

/-- A claim about `a.node` leaves the record of every other member untouched. -/
theorem C01_alive_frame (n : Node) (a : AliveMsg) (nt b : Bool) (env : Env) (y : String)
    (hy : y ≠ a.node) : lookup (aliveNode n a nt b env).1.recs y = lookup n.recs y :=
  aliveNode_frame n a nt b env y hy

/-- Unless it is a legitimate takeover of that member's name, an alive claim never
moves the view of another member backwards in the precedence order. -/
theorem C01_alive_forward (n : Node) (a : AliveMsg) (nt b : Bool) (env : Env) (x : String)
    (hx : x ≠ n.cfg.self) (hno : a.node = x → ¬ takeover n a env) :
    kle (key (lookup n.recs x)) (key (lookup (aliveNode n a nt b env).1.recs x)) := by
  by_cases hn : a.node = x
  case neg => rw [aliveNode_frame n a nt b env x (Ne.symm hn)]; exact kle_refl _
  subst hn
  cases hl : lookup n.recs a.node with
  | none => exact kle_none _
  | some r =>
    rcases aliveNode_known_other n a nt b env r hx hl with ⟨e, _⟩ | ⟨h, _, e⟩
    · rw [e, hl]; exact kle_refl _
    · rw [e]
      simp only [lookup_setRec, acceptRec_name, lookup_name hl, hl, ↓reduceIte, Option.map_some]
      have h := h.resolve_right (hno rfl)
      exact kle_key (Nat.le_of_lt h) fun e => absurd e (Nat.ne_of_lt h)

/-- An alive claim about another, known member, not newer than the held incarnation and not a takeover, changes
nothing: same node state, and at most a conflict callback. -/
theorem C01_alive_stale_noop (n : Node) (a : AliveMsg) (nt b : Bool) (env : Env) (r : Rec)
    (hself : a.node ≠ n.cfg.self) (hr : lookup n.recs a.node = some r) (hold : a.inc ≤ r.inc)
    (hno : ¬ takeover n a env) :
    (aliveNode n a nt b env).1 = n ∧
      ∀ o ∈ (aliveNode n a nt b env).2, ∃ nm ad p, o = Out.conflict nm ad p :=
  aliveNode_other_noop n a nt b env r hself hr hno (.inl hold)

/-- If the key of the named member decreases, the claim
was a takeover by a different admitted address of a left / long-dead holder. -/
theorem C01_alive_regression_iff_reclaim (n : Node) (a : AliveMsg) (nt b : Bool) (env : Env)
    (hself : a.node ≠ n.cfg.self)
    (hdec : ¬ kle (key (lookup n.recs a.node)) (key (lookup (aliveNode n a nt b env).1.recs a.node))) :
    takeover n a env :=
  Classical.not_not.mp fun h => hdec (C01_alive_forward n a nt b env a.node hself fun _ => h)

theorem C01_suspect_frame (n : Node) (s : Claim) (env : Env) (y : String) (hy : y ≠ s.node) :
    lookup (suspectNode n s env).1.recs y = lookup n.recs y :=
  suspectNode_frame n s env y hy

/-- A suspect claim never moves the view of another member backwards. -/
theorem C01_suspect_forward (n : Node) (s : Claim) (env : Env) (x : String) (hx : x ≠ n.cfg.self) :
    kle (key (lookup n.recs x)) (key (lookup (suspectNode n s env).1.recs x)) := by
  by_cases hn : s.node = x
  case neg => rw [suspectNode_frame n s env x (Ne.symm hn)]; exact kle_refl _
  subst hn
  rcases suspectNode_cases n s env with e | ⟨r, hr, hinc, ⟨_, _, _, e⟩ | ⟨_, hal, ⟨hs, _⟩ | ⟨_, e⟩⟩⟩
  · rw [e]
    exact kle_refl _
  · rw [e]
    exact kle_refl _
  · exact absurd hs hx
  · rw [e]
    simp only [lookup_setRec, lookup_name hr, hr, ↓reduceIte, Option.map_some]
    exact kle_key hinc fun _ => by rw [hal]; exact Nat.zero_le _

/-- A suspect claim that is older than the held incarnation, or that concerns a member held dead or left (which has
no timer: `TimerOk`), changes nothing and causes no output. (A suspect claim about a member already suspect is a
confirmation, which the property allows.) -/
theorem C01_suspect_stale_noop (n : Node) (s : Claim) (env : Env) (r : Rec)
    (hr : lookup n.recs s.node = some r)
    (hstale : s.inc < r.inc ∨ (r.st.deadOrLeft = true ∧ n.timers.find? (·.node == s.node) = none)) :
    suspectNode n s env = (n, []) := by
  rcases suspectNode_cases n s env with e | ⟨r', hr', hinc, h'⟩
  · exact e
  cases hr.symm.trans hr'
  rcases hstale with h | ⟨hd, hn⟩
  · exact absurd h (Nat.not_lt.mpr hinc)
  · -- a confirmation needs a timer; a refutation or a new suspicion an alive record
    rcases h' with ⟨_, ht, _⟩ | ⟨_, hal, _⟩
    · rw [hn] at ht; cases ht
    · rw [hal] at hd; cases hd

theorem C01_dead_frame (n : Node) (d : Claim) (env : Env) (y : String) (hy : y ≠ d.node) :
    lookup (deadNode n d env).1.recs y = lookup n.recs y :=
  deadNode_frame n d env y hy

/-- A dead claim never moves the view of another member backwards. -/
theorem C01_dead_forward (n : Node) (d : Claim) (env : Env) (x : String) (hx : x ≠ n.cfg.self) :
    kle (key (lookup n.recs x)) (key (lookup (deadNode n d env).1.recs x)) := by
  by_cases hn : d.node = x
  case neg => rw [deadNode_frame n d env x (Ne.symm hn)]; exact kle_refl _
  subst hn
  rcases deadNode_cases n d env with ⟨_, e⟩ | ⟨r, hr, hinc, ⟨_, e⟩ | ⟨_, ⟨hs, _⟩ | ⟨_, e⟩⟩⟩
  · rw [e]
    exact kle_refl _
  · rw [e]
    exact kle_refl _
  · exact absurd hs hx
  · rw [e]
    simp only [lookup_setRec, lookup_name hr, hr, ↓reduceIte, Option.map_some]
    -- dead and left rank highest
    refine kle_key hinc fun _ => ?_
    have : rank r.st ≤ 2 := by cases r.st <;> decide
    split <;> exact this

/-- A dead claim older than the held incarnation changes nothing at all;
one about a member already dead or left changes no record and produces no output. -/
theorem C01_dead_stale_noop (n : Node) (d : Claim) (env : Env) (r : Rec)
    (hr : lookup n.recs d.node = some r) :
    (d.inc < r.inc → deadNode n d env = (n, [])) ∧
    (r.st.deadOrLeft = true → (deadNode n d env).1.recs = n.recs ∧ (deadNode n d env).2 = []) := by
  rcases deadNode_cases n d env with ⟨_, e⟩ | ⟨r', hr', hinc, ⟨_, e⟩ | ⟨hd, _⟩⟩
  · rw [e]; exact ⟨fun _ => rfl, fun _ => ⟨rfl, rfl⟩⟩
  all_goals cases hr.symm.trans hr'
  · rw [e]; exact ⟨fun h => absurd h (Nat.not_lt.mpr hinc), fun _ => ⟨rfl, rfl⟩⟩
  · exact ⟨fun h => absurd h (Nat.not_lt.mpr hinc), fun h => by simp [hd] at h⟩

/-- A push/pull entry leaves the record of every member but its subject untouched. -/
theorem C01_merge_frame (n : Node) (r : PushState) (now : Nat) (y : String) (hy : y ≠ r.name) :
    lookup (mergeOne n r now).1.recs y = lookup n.recs y :=
  mergeOne_frame n r now y hy

theorem timerFire_frame (n : Node) (node : String) (ca : Nat) (env : Env) (y : String) (hy : y ≠ node) :
    lookup (timerFire n node ca env).1.recs y = lookup n.recs y := by
  rcases timerFire_cases n node ca env with ⟨_, e⟩ | ⟨_, _, _, _, e⟩ <;> rw [e]
  exact deadNode_frame n _ env y hy

/-- A push/pull entry never moves the view of another member backwards unless it is an alive entry performing a
legitimate takeover; remote dead/suspect become a suspicion, remote left a departure. -/
theorem C01_merge_forward (n : Node) (r : PushState) (now : Nat) (x : String) (hx : x ≠ n.cfg.self)
    (hno : r.name = x → r.st = .alive → ¬ takeover n r.toAlive (r.toEnv now)) :
    kle (key (lookup n.recs x)) (key (lookup (mergeOne n r now).1.recs x)) := by
  rw [mergeOne_eq]
  split
  · next h => exact C01_alive_forward n r.toAlive false false _ x hx fun e => hno e h
  · exact C01_dead_forward n _ _ x hx
  · exact C01_suspect_forward n _ _ x hx

/-- The suspicion timeout never moves the view of another member backwards: it is a dead claim at the held
incarnation, or nothing if the suspicion it was armed for is over. -/
theorem C01_fire_forward (n : Node) (node : String) (ca : Nat) (env : Env) (x : String) (hx : x ≠ n.cfg.self) :
    kle (key (lookup n.recs x)) (key (lookup (timerFire n node ca env).1.recs x)) := by
  rcases timerFire_cases n node ca env with ⟨_, e⟩ | ⟨_, _, _, _, e⟩ <;> rw [e]
  · exact kle_refl _
  · exact C01_dead_forward n _ env x hx

theorem C01_leave_forward (n : Node) (env : Env) (x : String) (hx : x ≠ n.cfg.self) :
    kle (key (lookup n.recs x)) (key (lookup (leave n env).1.recs x)) := by
  rcases leave_cases n env with ⟨_, e⟩ | ⟨_, e⟩ | ⟨_, _, _, e⟩ <;> rw [e]
  · exact kle_refl _
  · exact kle_refl _
  · exact C01_dead_forward { n with hasLeft := true } _ env x hx

/-- some entry of the merged list performs a legitimate takeover of `x` at the moment it is merged -/
def mergeTakeover : Node → List PushState → Nat → String → Prop
  | _, [], _, _ => False
  | n, r :: rest, now, x =>
    (r.name = x ∧ r.st = .alive ∧ takeover n r.toAlive (r.toEnv now)) ∨ mergeTakeover (mergeOne n r now).1 rest now x

/-- Merging a complete push/pull state never moves the view of another member backwards, unless one of its alive
entries performs a legitimate takeover. -/
theorem C01_mergeState_forward (n : Node) (rs : List PushState) (now : Nat) (x : String) (hx : x ≠ n.cfg.self) :
    kle (key (lookup n.recs x)) (key (lookup (mergeState n rs now).1.recs x)) ∨ mergeTakeover n rs now x := by
  induction rs generalizing n with
  | nil => exact .inl (kle_refl _)
  | cons r rs ih =>
    rw [mergeState_cons]
    by_cases ht : r.name = x ∧ r.st = .alive ∧ takeover n r.toAlive (r.toEnv now)
    · exact .inr (.inl ht)
    · have h1 := C01_merge_forward n r now x hx fun e h t => ht ⟨e, h, t⟩
      exact (ih _ (by rwa [mergeOne_cfg])).imp (kle_trans h1) .inr

/-- a step of the history that may legitimately move the view of `x` backwards: an alive claim or a
merge entry taking the name over from a new address, or the reaper forgetting a dead record -/
def regressStep (n : Node) (op : Op) (x : String) : Prop :=
  match op with
  | .alive a _ env => a.node = x ∧ takeover n a env
  | .merge rs now => mergeTakeover n rs now x
  | .reap => True
  | _ => False

def histRegress : Node → List Op → String → Prop
  | _, [], _ => False
  | n, op :: rest, x => regressStep n op x ∨ histRegress (step n op).1 rest x

theorem C01_step_forward (n : Node) (op : Op) (x : String) (hx : x ≠ n.cfg.self) :
    kle (key (lookup n.recs x)) (key (lookup (step n op).1.recs x)) ∨ regressStep n op x := by
  cases op with
  | alive a b env =>
    by_cases ht : a.node = x ∧ takeover n a env
    · exact .inr ht
    · exact .inl (C01_alive_forward n a false b env x hx fun e t => ht ⟨e, t⟩)
  | suspect c env => exact .inl (C01_suspect_forward n c env x hx)
  | dead c env => exact .inl (C01_dead_forward n c env x hx)
  | merge rs now => exact C01_mergeState_forward n rs now x hx
  | fire node ca env => exact .inl (C01_fire_forward n node ca env x hx)
  | reap => exact .inr trivial
  | update a p m v env =>
    exact .inl (C01_alive_forward { n with selfInc := (n.selfInc + 1) % u32 } _ true true env x hx fun e => absurd e hx.symm)
  | leave env => exact .inl (C01_leave_forward n env x hx)
  | age name =>
    left
    show kle _ (key (lookup (ageRec n name).recs x))
    rw [lookup_ageRec]
    cases lookup n.recs x <;> exact kle_refl _

/-- Over any sequence of operations - claims by every path and in every order,
merges, timer callbacks, UpdateNode, Leave, ageing - the view a node holds of any other member only
moves forward in the precedence order, except at the steps where a different admitted address
takes the name over from a left / long-dead holder, or where the reaper forgets a dead record. -/
theorem C01_history (n : Node) (ops : List Op) (x : String) (hx : x ≠ n.cfg.self) :
    kle (key (lookup n.recs x)) (key (lookup (ops.foldl (fun n op => (step n op).1) n).recs x)) ∨ histRegress n ops x := by
  induction ops generalizing n with
  | nil => exact .inl (kle_refl _)
  | cons op ops ih =>
    rcases C01_step_forward n op x hx with h1 | h1
    · exact (ih _ (by rwa [step_cfg])).imp (kle_trans h1) .inr
    · exact .inr (.inl h1)

/-- non-vacuity: a stale alive claim on a concrete node state is a no-op, a newer one is accepted -/
example :
    let cfg : Cfg := { self := "S", reclaim := false, hasAliveDelegate := false, hasConflictDelegate := true, awarenessMax := 8, suspicionK := 2 }
    let r : Rec := { name := "n1", inc := 3, st := .suspect, addr := 1, port := 0, md := 1, vsn := [1,5,2,0,0,0], changed := some 1 }
    let n : Node := { cfg, recs := [r] }
    let env : Env := { now := 5, ipAllowed := true, delegateOk := true, offset := 0 }
    (aliveNode n { inc := 3, node := "n1", addr := 1, port := 0, md := 2, vsn := [1,5,2,0,0,0] } false false env).1.recs = [r] ∧
    ((aliveNode n { inc := 4, node := "n1", addr := 1, port := 0, md := 2, vsn := [1,5,2,0,0,0] } false false env).1.recs.map (·.st)) = [.alive] := by
  decide

end Swim.Merge
