import Swim.Props.Projection
/-!
# C03: a node removes a silent member on its own evidence
Logic part of "every remaining live node ... stops listing it and delivers a leave event, on its own evidence": one
node's two steps, an unanswered probe and the expiry of the suspicion it started, whatever the rest of the cluster
holds. Which probe goes unanswered and when the timer expires is the timing part (probe schedule:
`C03_probe_target_ok`, `C03_pass_step`; timer: C06; bound: simulator).
-/
namespace Swim.Cluster
open Swim.Merge

/-- One node, nothing heard in between: an unanswered probe of a member held alive with no suspicion pending starts a
suspicion with the prober as the only accuser; when that timer fires the member is recorded dead at the same
incarnation and is no longer listed, and the leave event and the prober's dead claim go out. -/
theorem C03_own_evidence (n : Node) (x : String) (r : Rec) (env env' : Env)
    (hx : x ≠ n.cfg.self) (hr : lookup n.recs x = some r) (hal : r.st = .alive)
    (hnt : n.timers.find? (·.node == x) = none) :
    (∃ t ∈ (probeFail x env n).1.timers, t.node = x ∧ t.confirmers = [n.cfg.self]) ∧
    (∃ r', lookup (timerFire (probeFail x env n).1 x env.now env').1.recs x = some r' ∧ r'.st = .dead ∧ r'.inc = r.inc) ∧
    x ∉ members (timerFire (probeFail x env n).1 x env.now env').1 ∧
    Out.leave x ∈ (timerFire (probeFail x env n).1 x env.now env').2 ∧
    Out.bcast x .dead x r.inc n.cfg.self false ∈ (timerFire (probeFail x env n).1 x env.now env').2 := by
  have hrn := lookup_name hr
  have hxs : (x == n.cfg.self) = false := by simpa using hx
  have e1 := probeFail_other (env := env) hx hr
  obtain ⟨n1, hp, hc1, ht1, hl1⟩ : ∃ n1, (probeFail x env n).1 = n1 ∧ n1.cfg = n.cfg ∧
      (∃ t ∈ n1.timers, t.node = x ∧ t.confirmers = [n.cfg.self]) ∧
      lookup n1.recs x = some { r with st := .suspect, changed := some env.now } :=
    ⟨_, congrArg Prod.fst (e1.trans (suspectNode_other n _ env r hx hr hal hnt (Nat.le_refl _))), rfl,
      ⟨_, List.mem_append_right _ List.mem_cons_self, rfl, rfl⟩, by simp [hrn, hr]⟩
  rw [hp]
  refine ⟨ht1, ?_⟩
  rw [timerFire_suspect n1 x env.now env' _ hl1 rfl rfl,
    deadNode_recorded n1 _ env' _ (fun e => absurd e (by rw [hc1]; exact hx)) hl1 rfl (Nat.le_refl _)]
  simp only [hxs, hc1, Bool.false_eq_true, ↓reduceIte]
  refine ⟨by simp [hl1, hrn], ?_, by simp, by simp⟩
  simp only [members, List.mem_map, List.mem_filter, not_exists, not_and]
  intro y ⟨hy, hlist⟩ hyn
  rcases mem_setRec_cases hy with ⟨_, hne⟩ | rfl
  · exact hne (by simpa [hrn] using hyn)
  · simp [St.deadOrLeft] at hlist

/-- In any cluster state, whatever the other nodes hold: if node `y` holds `x` alive with no suspicion pending, then an
unanswered probe of `x` followed directly by the expiry of the suspicion it started leaves `y` not listing `x`, with a
leave event for `x` in `y`'s log. -/
theorem C03_cluster_own_evidence (w : World) (y x : String) (n : Node) (r : Rec) (env env' : Env)
    (hn : nodeAt w y = some n) (hx : x ≠ y) (hr : lookup n.recs x = some r) (hal : r.st = .alive)
    (hnt : n.timers.find? (·.node == x) = none) :
    ∃ n', nodeAt (w.run [.probeFail y x env, .fire y x env.now env']) y = some n' ∧ x ∉ members n' ∧
      Out.leave x ∈ logOf (w.run [.probeFail y x env, .fire y x env.now env']) y := by
  have hname := (find_actor hn).2
  have hx' : x ≠ n.cfg.self := by rw [hname]; exact hx
  have hxs : (x == n.cfg.self) = false := by simpa using hx'
  obtain ⟨_, _, e3, e4, _⟩ := C03_own_evidence n x r env env' hx' hr hal hnt
  obtain ⟨s1, _⟩ := step_projection w (.probeFail y x env) y
  have ho1 : nodeOp w (.probeFail y x env) = some (y, .suspect { inc := r.inc, node := x, frm := n.cfg.self } env) := by
    simp [nodeOp, hn, hxs, hr]
  have hp := probeFail_other (env := env) hx' hr
  rw [hn, ho1] at s1
  simp only [Option.map_some, applyOp, ↓reduceIte, step] at s1
  rw [← hp] at s1
  obtain ⟨t1, t2⟩ := step_projection (w.step (.probeFail y x env)) (.fire y x env.now env') y
  rw [s1] at t1 t2
  simp only [Option.map_some, nodeOp, applyOp, ↓reduceIte, step] at t1 t2
  refine ⟨_, t1, e3, ?_⟩
  show Out.leave x ∈ logOf ((w.step (.probeFail y x env)).step (.fire y x env.now env')) y
  rw [t2]
  exact List.mem_append_right _ e4

end Swim.Cluster
