import Swim.Props.Cluster
import Swim.Props.C01
import Swim.Props.C02
import Swim.Props.C07
import Swim.Props.C18
/-!
# Projection: every node of a cluster history runs a single-node history
Each cluster step changes at most one node, by exactly one operation of the single-node model (`Swim.Merge.step`), and
appends that operation's effects to the log under the node's name (`step_projection`). Hence for every node of every
cluster history a sequence of single-node operations (`projOps`) takes its initial state to its final state and produces
its part of the log (`projection`), and the theorems about single-node histories (`C01_history`, `C02_history`,
`C07_history`, `C18_history`) hold for every node of every cluster history.
-/
namespace Swim.Cluster
open Swim.Merge

def logOf (w : World) (y : String) : List Out := (w.log.filter (·.1 == y)).map (·.2)

theorem act_logOf (w : World) (x y : String) (f : Node → Node × List Out) (src : Option AliveMsg) :
    logOf (act w x f src) y =
      logOf w y ++ if x = y then (match nodeAt w x with | some n => (f n).2 | none => []) else [] := by
  cases hf : nodeAt w x with
  | none =>
    rw [act_none _ _ _ _ hf]
    by_cases hxy : x = y
    · rw [if_pos hxy, List.append_nil]
    · rw [if_neg hxy, List.append_nil]
  | some n =>
    rw [act_some hf, logOf, logOf, List.filter_append, List.map_append]
    congr 1
    -- the appended entries are all tagged `x`: the filter for `y` keeps all of them or none
    have tag : ∀ p ∈ (f n).2.map fun o => (x, o), p.1 = x := fun p hp => by
      obtain ⟨o, _, rfl⟩ := List.mem_map.mp hp
      rfl
    by_cases hxy : x = y
    · rw [if_pos hxy, List.filter_eq_self.mpr fun p hp => beq_iff_eq.mpr ((tag p hp).trans hxy), List.map_map]
      exact List.map_id' _
    · rw [if_neg hxy, List.filter_eq_nil_iff.mpr fun p hp h => hxy ((tag p hp).symm.trans (beq_iff_eq.mp h))]
      rfl

def applyOp (o? : Option (String × Op)) (y : String) (n : Node) : Node × List Out :=
  match o? with
  | some (x, o) => if x = y then step n o else (n, [])
  | none => (n, [])

theorem applyOp_cases (o? : Option (String × Op)) (y : String) (n : Node) :
    applyOp o? y n = (n, []) ∨ ∃ o, o? = some (y, o) ∧ applyOp o? y n = step n o := by
  cases o? with
  | none => exact .inl rfl
  | some xo =>
    by_cases h : xo.1 = y
    · exact .inr ⟨xo.2, by rw [← h], if_pos h⟩
    · exact .inl (if_neg h)

theorem act_proj (w : World) (x y : String) (f : Node → Node × List Out) (src : Option AliveMsg) (o? : Option Op)
    (hcfg : ∀ n, (f n).1.cfg = n.cfg)
    (hf : ∀ n, nodeAt w x = some n → f n = match o? with | some o => step n o | none => (n, [])) :
    nodeAt (act w x f src) y = (nodeAt w y).map (fun n => (applyOp (o?.map (fun o => (x, o))) y n).1) ∧
    logOf (act w x f src) y = logOf w y ++
      (match nodeAt w y with | some n => (applyOp (o?.map (fun o => (x, o))) y n).2 | none => []) := by
  rw [act_nodeAt w x y f src hcfg, act_logOf]
  by_cases hxy : x = y
  · subst hxy
    cases hn : nodeAt w x with
    | none => simp
    | some n => cases o? <;> simp [applyOp, hf n hn]
  · cases nodeAt w y <;> cases o? <;> simp [applyOp, hxy]

/-- One cluster step is at most one single-node step. For every node name `y`: the node called `y` after the step is the
node before it with `nodeOp`'s operation applied when `y` is the acting node, and unchanged otherwise; `y`'s log grows by
exactly that operation's effects. -/
theorem step_projection (w : World) (op : COp) (y : String) :
    nodeAt (w.step op) y = (nodeAt w y).map (fun n => (applyOp (nodeOp w op) y n).1) ∧
    logOf (w.step op) y = logOf w y ++
      (match nodeAt w y with | some n => (applyOp (nodeOp w op) y n).2 | none => []) := by
  have noop : nodeAt w y = (nodeAt w y).map (fun n => (applyOp none y n).1) ∧
      logOf w y = logOf w y ++ (match nodeAt w y with | some n => (applyOp none y n).2 | none => []) := by
    cases nodeAt w y <;> simp [applyOp]
  -- every case is `act_proj` with the operation `nodeOp` yields (`none` where the rule does nothing), or `noop`
  cases op with
  | deliver x i env =>
    simp only [World.step, nodeOp]
    cases hm : w.pool[i]? with
    | none => exact noop
    | some m =>
      cases m with
      | alive a =>
        exact act_proj w x y _ _ (some (.alive a false env)) (fun n => alive_cfg n a false false env) (fun n _ => rfl)
      | suspect c =>
        exact act_proj w x y _ _ (some (.suspect c env)) (fun n => suspect_cfg n c env) (fun n _ => rfl)
      | dead c =>
        exact act_proj w x y _ _ (some (.dead c env)) (fun n => dead_cfg n c env) (fun n _ => rfl)
      | state s =>
        exact act_proj w x y _ _ (some (.merge [withEnv s env] env.now)) (fun n => mergeOne_cfg n _ _)
          (fun n _ => by simp only [step, mergeState_single]; rfl)
  | snapshot x =>
    simp only [World.step, nodeOp]
    cases hf : w.nodes.find? (·.cfg.self == x) with
    | none => exact noop
    | some n => exact noop
  | announce x addr port md vsn env =>
    simp only [World.step, nodeOp]
    cases hf : nodeAt w x with
    | none =>
      have hf' : w.nodes.find? (·.cfg.self == x) = none := hf
      simp only [hf']
      exact noop
    | some n =>
      have hf' : w.nodes.find? (·.cfg.self == x) = some n := hf
      simp only [hf']
      cases hme : lookup n.recs n.cfg.self with
      | some me =>
        simp only
        exact act_proj w x y _ _ (some (.update me.addr me.port md me.vsn env)) (announce_cfg addr port md vsn env)
          (fun n2 h2 => by rw [hf] at h2; cases h2; simp [announce, hme, step])
      | none =>
        simp only
        by_cases hv : vsn.length = 6
        · simp only [hv, ↓reduceIte]
          exact act_proj w x y _ _ (some (.update addr port md vsn env)) (announce_cfg addr port md vsn env)
            (fun n2 h2 => by rw [hf] at h2; cases h2; simp [announce, hme, step, hv])
        · simp only [hv, ↓reduceIte]
          exact act_proj w x y _ _ none (announce_cfg addr port md vsn env)
            (fun n2 h2 => by rw [hf] at h2; cases h2; simp [announce, hme, hv])
  | leave x env =>
    exact act_proj w x y _ _ (some (.leave env)) (fun n => step_cfg n (.leave env)) (fun n _ => rfl)
  | fire x node ca env =>
    exact act_proj w x y _ _ (some (.fire node ca env)) (fun n => step_cfg n (.fire node ca env)) (fun n _ => rfl)
  | reap x =>
    exact act_proj w x y _ _ (some .reap) (fun n => rfl) (fun n _ => rfl)
  | age x name =>
    exact act_proj w x y _ _ (some (.age name)) (fun n => rfl) (fun n _ => rfl)
  | probeFail x t env =>
    simp only [World.step, nodeOp]
    cases hf : nodeAt w x with
    | none =>
      simp only
      exact act_proj w x y _ _ none (probeFail_cfg t env) (fun n2 h2 => by rw [hf] at h2; cases h2)
    | some n =>
      simp only
      by_cases hs : (t == n.cfg.self) = true
      · simp only [hs, ↓reduceIte]
        exact act_proj w x y _ _ none (probeFail_cfg t env)
          (fun n2 h2 => by rw [hf] at h2; cases h2; simp [probeFail, hs])
      · simp only [hs, Bool.false_eq_true, ↓reduceIte]
        cases hl : lookup n.recs t with
        | none =>
          simp only
          exact act_proj w x y _ _ none (probeFail_cfg t env)
            (fun n2 h2 => by rw [hf] at h2; cases h2; simp [probeFail, hs, hl])
        | some r =>
          simp only
          exact act_proj w x y _ _ (some (.suspect { inc := r.inc, node := t, frm := n.cfg.self } env)) (probeFail_cfg t env)
            (fun n2 h2 => by rw [hf] at h2; cases h2; simp [probeFail, hs, hl, step])

/-- the single-node operations node `y` performs during a cluster history -/
def projOps : World → List COp → String → List Op
  | _, [], _ => []
  | w, op :: rest, y =>
    (match nodeOp w op with
      | some (x, o) => if x = y then [o] else []
      | none => []) ++ projOps (w.step op) rest y

def nodeRun (n : Node) (ops : List Op) : Node × List Out :=
  ops.foldl (fun (acc : Node × List Out) op => ((step acc.1 op).1, acc.2 ++ (step acc.1 op).2)) (n, [])

theorem nodeRun_cons (n : Node) (op : Op) (ops : List Op) :
    nodeRun n (op :: ops) = ((nodeRun (step n op).1 ops).1, (step n op).2 ++ (nodeRun (step n op).1 ops).2) :=
  List.foldl_log step ops _ _

theorem nodeRun_fst (n : Node) (ops : List Op) : (nodeRun n ops).1 = ops.foldl (fun n op => (step n op).1) n := by
  induction ops generalizing n with
  | nil => rfl
  | cons op ops ih => rw [nodeRun_cons]; exact ih _

/-- For every cluster history and every node: the node's final state and its part of the log are those of the
single-node history `projOps` run from its initial state. -/
theorem projection (ops : List COp) : ∀ (w : World) (y : String) (n0 : Node), nodeAt w y = some n0 →
    nodeAt (w.run ops) y = some (nodeRun n0 (projOps w ops y)).1 ∧
    logOf (w.run ops) y = logOf w y ++ (nodeRun n0 (projOps w ops y)).2 := by
  induction ops with
  | nil => intro w y n0 h0; simp [World.run, projOps, nodeRun, h0]
  | cons op ops ih =>
    intro w y n0 h0
    obtain ⟨s1, s2⟩ := step_projection w op y
    rw [h0] at s1 s2
    simp only [Option.map_some] at s1 s2
    obtain ⟨i1, i2⟩ := ih (w.step op) y _ s1
    simp only [World.run, List.foldl_cons] at i1 i2 ⊢
    rw [i1, i2, s2]
    simp only [projOps]
    cases ho : nodeOp w op with
    | none => simp [applyOp]
    | some xo =>
      obtain ⟨x, o⟩ := xo
      by_cases hxy : x = y
      · simp only [applyOp, hxy, ↓reduceIte, List.singleton_append, nodeRun_cons, List.append_assoc, and_self]
      · simp [applyOp, hxy]

/-- the node's final state as the fold the single-node history theorems speak of -/
theorem projection_fold (ops : List COp) (w : World) (y : String) (n0 : Node) (h0 : nodeAt w y = some n0) :
    nodeAt (w.run ops) y = some ((projOps w ops y).foldl (fun n op => (step n op).1) n0) := by
  rw [← nodeRun_fst]; exact (projection ops w y n0 h0).1

/-- For every cluster history starting in a state where node `y` satisfies `LogInv` (distinct record names, `SelfOk`),
replaying the part of the event log `y` produced during the history on the set `y` listed at the start yields exactly
the set `y` lists at the end. -/
theorem C07_cluster_sync (w : World) (ops : List COp) (y : String) (n0 : Node) (h0 : nodeAt w y = some n0)
    (hlog : LogInv n0) :
    ∃ n1, nodeAt (w.run ops) y = some n1 ∧ ∃ part, logOf (w.run ops) y = logOf w y ++ part ∧
      ∀ z, replay (listedAt n0) part z = listedAt n1 z := by
  obtain ⟨p1, p2⟩ := projection ops w y n0 h0
  exact ⟨_, p1, _, p2, (C07_history n0 (projOps w ops y) hlog).1⟩

/-- a node that holds its own record, alive unless Leave was called (`SelfOk`), keeps doing so through every cluster
history -/
theorem C02_cluster_selfOk (w : World) (ops : List COp) (y : String) (n0 : Node) (h0 : nodeAt w y = some n0)
    (hok : SelfOk n0) : ∃ n1, nodeAt (w.run ops) y = some n1 ∧ SelfOk n1  :=
  ⟨_, projection_fold ops w y n0 h0, C02_history n0 _ hok⟩

/-- Through every cluster history, the view any node holds of any other member only moves forward in the precedence
order, unless the node's part of the history contains a takeover of the name by another address or a reaper step
(`histRegress`). -/
theorem C01_cluster_forward (w : World) (ops : List COp) (y x : String) (n0 : Node) (h0 : nodeAt w y = some n0)
    (hx : x ≠ n0.cfg.self) :
    ∃ n1, nodeAt (w.run ops) y = some n1 ∧
      (kle (key (lookup n0.recs x)) (key (lookup n1.recs x)) ∨ histRegress n0 (projOps w ops y) x)  :=
  ⟨_, projection_fold ops w y n0 h0, C01_history n0 _ x hx⟩

/-- With an allow-list, if every admission verdict a node computes during the history is the allow-list's verdict on the
claimed address, every address it holds stays allowed. -/
theorem C18_cluster_allowed (allowed : Nat → Bool) (w : World) (ops : List COp) (y : String) (n0 : Node)
    (h0 : nodeAt w y = some n0) (hinv : AllAllowed allowed n0)
    (hops : ∀ op ∈ projOps w ops y, opHonest allowed op) :
    ∃ n1, nodeAt (w.run ops) y = some n1 ∧ AllAllowed allowed n1  :=
  ⟨_, projection_fold ops w y n0 h0, C18_history allowed n0 _ hinv hops⟩

end Swim.Cluster
