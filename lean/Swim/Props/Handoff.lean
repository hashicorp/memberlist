import Swim.Model.Handoff
/-!
# The handoff queue: bounded, nothing invented, sources kept (C13, C18)

Everything is read off `pushes_eq`, the two queues after any arrivals in closed form.
-/
namespace List

/-- appending `m` unless `l` has `d` elements already, then filling up to `d` from `ms`, is filling `l` up to `d`
from `m :: ms` (one arrival at a queue that refuses when full) -/
theorem append_take_cons_sub_length {α : Type} (d : Nat) (l : List α) (m : α) (ms : List α) :
    (if l.length ≥ d then l else l ++ [m]) ++ ms.take (d - (if l.length ≥ d then l else l ++ [m]).length) =
      l ++ (m :: ms).take (d - l.length) := by
  by_cases h : l.length ≥ d
  · rw [if_pos h, Nat.sub_eq_zero_of_le h, List.take_zero, List.take_zero]
  · obtain ⟨n, hn⟩ := Nat.exists_eq_add_one_of_ne_zero (Nat.sub_ne_zero_of_lt (Nat.lt_of_not_le h))
    rw [if_neg h, List.length_append, List.length_singleton, Nat.sub_add_eq, hn, Nat.add_sub_cancel,
      List.take_succ_cons, List.append_assoc, List.singleton_append]

theorem length_append_take_sub_length_le {α : Type} {d : Nat} {l : List α} (h : l.length ≤ d) (ms : List α) :
    (l ++ ms.take (d - l.length)).length ≤ d := by
  rw [List.length_append]
  exact Nat.le_trans (Nat.add_le_add_left (List.length_take_le _ _) _) (Nat.le_of_eq (Nat.add_sub_of_le h))

end List

namespace Swim.Handoff

def isAlive (m : Msg) : Bool := m.kind == .alive

/-- the two queues in closed form: each holds what it held, then the first arrivals of its kind that fit -/
theorem pushes_eq (d : Nat) (ms : List Msg) (q : Q) :
    pushes d q ms = { high := q.high ++ (ms.filter isAlive).take (d - q.high.length),
                      low := q.low ++ (ms.filter (fun m => !isAlive m)).take (d - q.low.length) } := by
  induction ms generalizing q with
  | nil => simp [pushes]
  | cons m ms ih =>
    rw [pushes, List.foldl_cons, ← pushes, ih]
    cases hk : m.kind with
    | alive =>
      have ha : isAlive m = true := by simp [isAlive, hk]
      simp only [push, hk, List.filter_cons, ha, Bool.not_true, Bool.false_eq_true, ↓reduceIte]
      -- `push` has its `if` around the record, the lemma around the list: in either branch both sides are the same term
      rw [← List.append_take_cons_sub_length d q.high m]; split <;> rfl
    | other =>
      have ha : isAlive m = false := by simp [isAlive, hk]
      simp only [push, hk, List.filter_cons, ha, Bool.not_false, Bool.false_eq_true, ↓reduceIte]
      -- as above, for the other queue
      rw [← List.append_take_cons_sub_length d q.low m]; split <;> rfl

/-- whatever arrives, neither queue ever holds more than `HandoffQueueDepth` messages -/
theorem C13_handoff_bounded (d : Nat) (ms : List Msg) (q : Q) (h : q.high.length ≤ d ∧ q.low.length ≤ d) :
    (pushes d q ms).high.length ≤ d ∧ (pushes d q ms).low.length ≤ d := by
  rw [pushes_eq]
  exact ⟨List.length_append_take_sub_length_le h.1 _, List.length_append_take_sub_length_le h.2 _⟩

/-- every message the handler ever takes from the queues is one that arrived -
the same kind, the same content, the same source verdict; a full queue drops, it never rewrites. -/
theorem C18_handoff_nothing_invented (d : Nat) (ms : List Msg) (q : Q) (x : Msg)
    (hx : x ∈ order (pushes d q ms)) : x ∈ q.high ∨ x ∈ q.low ∨ x ∈ ms := by
  simp only [pushes_eq, order, List.mem_append, List.mem_reverse] at hx
  rcases hx with (h | h) | (h | h)
  · exact .inl h
  · exact .inr (.inr (List.mem_filter.mp (List.mem_of_mem_take h)).1)
  · exact .inr (.inl h)
  · exact .inr (.inr (List.mem_filter.mp (List.mem_of_mem_take h)).1)

theorem effect_eq_alive {m : Msg} {t : Nat} :
    effect m = some (.alive, t) ↔ m.kind = .alive ∧ m.srcOk = true ∧ m.tag = t := by
  unfold effect
  cases m.kind <;> cases m.srcOk <;> simp

/-- an alive message from outside the allow-list has no effect: when every queued alive message with tag `t` failed
the source check, no alive with tag `t` is among the effects of handling the queues -/
theorem C18_handoff_outsider_no_effect (q : Q) (t : Nat) (h : ∀ m ∈ order q, m.kind = .alive → m.tag = t → m.srcOk = false) :
    (Kind.alive, t) ∉ effects q := by
  intro hin
  obtain ⟨m, hm, he⟩ := List.mem_filterMap.mp hin
  obtain ⟨hk, hs, ht⟩ := effect_eq_alive.mp he
  exact Bool.false_ne_true ((h m hm hk ht).symm.trans hs)

/-- of the alive gossip that arrives while the handler is busy, exactly the first `depth` messages are kept
(later ones find the queue full), whatever else arrives in between -/
theorem C13_handoff_keeps_the_first (d : Nat) (ms : List Msg) (q : Q) (hq : q.high.length ≤ d) :
    (pushes d q ms).high = (q.high ++ ms.filter isAlive).take d := by
  rw [pushes_eq, List.take_append, List.take_of_length_le hq]

example : effects (pushes 2 {} [⟨.other, 1, true⟩, ⟨.alive, 2, true⟩, ⟨.alive, 3, false⟩, ⟨.alive, 4, true⟩, ⟨.other, 5, true⟩]) =
    [(.alive, 2), (.other, 5), (.other, 1)] := by decide

end Swim.Handoff
