import Swim.Props.C12
/-!
# C15  Outbound confidentiality: nothing leaves unencrypted when encryption is enforced

Fact theorems pin the write sites of the package (`Gen.writeSites`, extracted from the Go source); over the
pipeline of C12, what `sendPacket` emits with a key is label header, version byte, nonce and one sealing. That
the Go functions encrypt before they write rests on the correspondence runs, not on a data-flow proof.
-/
namespace Swim.Codec

/-- Fact theorem, regenerated on every run: the complete list of calls of a method named `Write`, `WriteTo` or
`WriteToAddress` in the package, so that a new send site breaks it. Protocol code hands a buffer to the
transport only in `rawSendMsgPacket` and writes to a `net.Conn` only in `rawSendMsgStream` and
`AddLabelHeaderToStream` (the cleartext label header); the others write into in-memory buffers or are
transport wrappers forwarding to each other. -/
theorem C15_write_sites :
    Gen.writeSites = [
      ("AddLabelHeaderToStream", "conn", "Write"),
      ("Memberlist.encryptLocalState", "buf", "Write"),
      ("Memberlist.rawSendMsgPacket", "m.transport", "WriteToAddress"),
      ("Memberlist.rawSendMsgStream", "conn", "Write"),
      ("Memberlist.sendLocalState", "bufConn", "Write"),
      ("Memberlist.sendLocalState", "bufConn", "Write"),
      ("Memberlist.sendUserMsg", "bufConn", "Write"),
      ("NetTransport.WriteToAddress", "t.udpListeners[0]", "WriteTo"),
      ("NetTransport.WriteTo", "t", "WriteToAddress"),
      ("compressPayload", "compressor", "Write"),
      ("encryptPayload", "dst", "Write"),
      ("labelWrappedTransport.WriteToAddress", "t.NodeAwareTransport", "WriteToAddress"),
      ("labelWrappedTransport.WriteTo", "t.NodeAwareTransport", "WriteTo"),
      ("makeCompoundMessage", "binary", "Write"),
      ("makeCompoundMessage", "buf", "Write"),
      ("shimNodeAwareTransport.WriteToAddress", "t", "WriteTo")] :=
  rfl

/-- the protocol code reaches the transport / a connection only through these three functions -/
theorem C15_send_sites :
    (Gen.writeSites.filter fun s => s.2.1 == "m.transport" || s.2.1 == "conn").map (·.1) =
      ["AddLabelHeaderToStream", "Memberlist.rawSendMsgPacket", "Memberlist.rawSendMsgStream"] :=
  rfl

/-- With a primary key, every buffer `sendPacket` produces is the cleartext label header followed by a version
byte, the nonce and one AEAD sealing under that key with the label as associated data; nothing else. (What is
sealed is left open here; by `C12_packet_roundtrip` it opens to the message.) -/
theorem C15_packet_is_ciphertext (P : Prims) (c : SendCfg) (useComp : Bool) (msg k : Bytes)
    (hk : c.key = some k) :
    ∃ v body, sendPacket P c useComp msg = addLabel c.label (v :: (c.nonce ++ P.sealB k c.nonce c.label body)) ∧
      (v = 0 ∨ v = 1) := by
  obtain ⟨v, body, h, hv⟩ := encLayer_keyed P c _ k hk
  exact ⟨v, body, by rw [sendPacket, h], hv⟩

/-- the label header is the only cleartext: removing it from an emitted packet leaves exactly the
version byte, nonce and sealed body -/
theorem C15_only_label_in_clear (P : Prims) (c : SendCfg) (useComp : Bool) (msg k : Bytes)
    (hk : c.key = some k) (hlabel : c.label.length ≤ 255) :
    ∃ v body, removeLabel (sendPacket P c useComp msg) =
      .ok (v :: (c.nonce ++ P.sealB k c.nonce c.label body), c.label) := by
  obtain ⟨v, body, hs, hv⟩ := C15_packet_is_ciphertext P c useComp msg k hk
  refine ⟨v, body, ?_⟩
  rw [hs]
  refine removeLabel_addLabel c.label _ hlabel fun t ht => ?_
  -- neither version byte is the label marker
  cases Option.some.inj ht
  rcases hv with rfl | rfl <;> decide

end Swim.Codec
