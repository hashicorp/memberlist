import Swim.Gen.FuncsCodec
import Swim.Model.Codec
/-!
# security.go, label.go, net.go: lengths and overheads as translated (DESIGN 4.1b) are those of `Swim.Codec`
-/
namespace Swim.GenTie.Codec
open Swim.GenF.Codec

/-- `encryptedLength` (security.go) = `Codec.encryptedLength`, every version and length -/
theorem encryptedLength_tie (vsn inp : Nat) :
    encryptedLength (vsn : Int) (inp : Int) = ((Codec.encryptedLength vsn inp : Nat) : Int) := by
  -- the same expression up to casts (Go's `%` on non-negative operands is the remainder of the naturals); the one cast
  -- that needs a reason is the padding's truncated subtraction
  have hb : inp % Gen.c_blockSize ≤ Gen.c_blockSize := Nat.le_of_lt (Nat.mod_lt _ (by decide))
  simp only [encryptedLength, Codec.encryptedLength, ← Int.ofNat_tmod, apply_ite Nat.cast]
  norm_cast

/-- `encryptOverhead` (security.go) = `Codec.encryptOverhead` on the two supported versions and panics elsewhere -/
theorem encryptOverhead_tie (vsn : Nat) :
    encryptOverhead (vsn : Int) = if vsn ≤ 1 then some ((Codec.encryptOverhead vsn : Nat) : Int) else none := by
  unfold encryptOverhead Codec.encryptOverhead
  norm_cast
  match vsn with
  | 0 | 1 | _ + 2 => rfl

/-- `labelOverhead` (label.go) = `Codec.labelOverhead` -/
theorem labelOverhead_tie (label : Codec.Bytes) :
    labelOverhead (label.length : Int) = ((Codec.labelOverhead label : Nat) : Int) := by
  unfold labelOverhead Codec.labelOverhead
  cases label with
  | nil => rfl
  | cons x xs => norm_cast

/-- `Memberlist.encryptionVersion` (net.go): protocol version 1 seals in the first format (padded blocks),
every other protocol version in the second -/
theorem encryptionVersion_tie (proto : Int) : encryptionVersion proto = if proto = 1 then 0 else 1 := by
  unfold encryptionVersion
  by_cases h : proto = 1 <;> simp [h]

theorem dropped_calls_none : droppedCalls = [] := rfl

end Swim.GenTie.Codec
