import Swim.Gen.FuncsAcks
import Swim.Model.Acks
/-!
# awareness.go: `ApplyDelta`, `ScaleTimeout` as translated (DESIGN 4.1b) are `Acks.applyDelta`, `Acks.deadline`
-/
namespace Swim.GenTie.Acks
open Swim.GenF.Acks

/-- `awareness.ApplyDelta` (awareness.go) = `Acks.applyDelta`, for a maximum of at least 1 (with
`AwarenessMaxMultiplier = 0` the Go code stores -1, which the model's natural-number score cannot hold) -/
theorem applyDelta_tie (max score : Nat) (delta : Int) (hm : 1 ≤ max) :
    applyDelta delta (score : Int) (max : Int) = ((Acks.applyDelta max score delta : Nat) : Int) := by
  unfold applyDelta Acks.applyDelta
  simp only
  by_cases h1 : (score : Int) + delta < 0
  · simp [h1]
  · by_cases h2 : (score : Int) + delta > (max : Int) - 1
    · simp only [h1, h2, if_true, if_false, ite_self]
      omega
    · simp only [h1, h2, if_false, ite_self]
      omega

/-- `awareness.ScaleTimeout` (awareness.go) = the probe deadline of the model -/
theorem scaleTimeout_tie (c : Acks.Cfg) (score : Nat) :
    scaleTimeout (c.probeInterval : Int) (score : Int) = ((Acks.deadline c score : Nat) : Int) := by
  unfold scaleTimeout Acks.deadline
  simp

theorem dropped_calls_are_locks_and_metrics :
    droppedCalls = ["awareness.ApplyDelta: a.Lock", "awareness.ApplyDelta: a.Unlock",
      "awareness.ApplyDelta: metrics.SetGaugeWithLabels", "awareness.ScaleTimeout: a.RLock",
      "awareness.ScaleTimeout: a.RUnlock"] := rfl

end Swim.GenTie.Acks
