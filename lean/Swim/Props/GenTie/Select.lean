import Swim.Gen.FuncsSelect
import Swim.Model.Select
/-!
# The translated exclusion rules agree with the hand-written model (Select)

`Swim.GenF.Select` is regenerated on every run from `/repo`'s source: the function literals that `gossip`, `probeNode`
and `pushPull` hand to `kRandomNodes`, translated by `tools/extract/translate.go` (name comparisons become flag inputs,
`time.Since(x)` an integer input). Each theorem states that the rule as it is written in the repository now is the rule
of the model (`Swim.Select.gossipExcl`, `relayExcl`, `pushPullExcl`) for every argument; the theorems of
`Swim.Props.Select` are about the latter. `selectionCalls` (Gen.Facts) lists every call of the two helpers.
-/
namespace Swim.GenTie.Select
open Swim.GenF.Select

def flag (b : Bool) : Int := if b then 1 else 0

/-- `gossip()`'s rule = `Select.gossipExcl`, for every state code, age, window and name comparison -/
theorem gossipExclude_tie (isSelf : Bool) (state : Nat) (since window : Int) :
    gossipExclude (state : Int) since window (flag isSelf) =
      Swim.Select.gossipExcl isSelf state (decide (since > window)) := by
  unfold gossipExclude Swim.Select.gossipExcl
  -- the state code is compared as a Go `int` with the constants read from the running code: move both to `Nat`
  norm_cast
  cases isSelf <;> simp [flag, Gen.c_StateAlive, Gen.c_StateSuspect, Gen.c_StateDead]

/-- `probeNode()`'s relay rule = `Select.relayExcl` -/
theorem relayExclude_tie (isSelf isTarget : Bool) (state : Nat) :
    relayExclude (flag isSelf) (flag isTarget) (state : Int) = Swim.Select.relayExcl isSelf isTarget state := by
  -- a truth table over the two name flags; what is left of either side is the test of the state code
  cases isSelf <;> cases isTarget <;>
    simp [relayExclude, Swim.Select.relayExcl, flag, Gen.c_StateAlive, bne, Bool.beq_eq_decide_eq]

/-- `pushPull()`'s partner rule = `Select.pushPullExcl` -/
theorem pushPullExclude_tie (isSelf : Bool) (state : Nat) :
    pushPullExclude (flag isSelf) (state : Int) = Swim.Select.pushPullExcl isSelf state := by
  cases isSelf <;> simp [pushPullExclude, Swim.Select.pushPullExcl, flag, Gen.c_StateAlive, bne, Bool.beq_eq_decide_eq]

theorem dropped_calls_none : droppedCalls = [] := rfl

/-- Regenerated from the source: the member list is reaped in exactly one place, with the gossip-to-the-dead
window (not another interval), and the three selections draw from the member list: gossip and the indirect probe with
the configured fan-outs, push/pull with the literal count 1. -/
theorem C03_selection_call_sites :
    Gen.selectionCalls =
      [("kRandomNodes", "Memberlist.gossip", "m.config.GossipNodes", "m.nodes"),
       ("kRandomNodes", "Memberlist.probeNode", "m.config.IndirectChecks", "m.nodes"),
       ("kRandomNodes", "Memberlist.pushPull", "1", "m.nodes"),
       ("moveDeadNodes", "Memberlist.resetNodes", "m.nodes", "m.config.GossipToTheDeadTime")] := rfl

end Swim.GenTie.Select
