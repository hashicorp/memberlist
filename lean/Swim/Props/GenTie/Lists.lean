import Swim.Gen.FuncsLists
import Swim.Model.Select
/-!
# The translated loops over the member list and the allow-list agree with the model (Lists)

`Swim.GenF.Lists` is regenerated on every run from `/repo`'s source by `tools/extract/translate.go` (DESIGN 4.1b):
`Memberlist.anyAlive`, `NumMembers`, `Members`, `Config.IPMustBeChecked`, `Config.IPAllowed` and `randomOffset` (util.go).
A range loop with one guarded `return`, `x++` or `append` becomes `List.any` / `List.countP` / `List.filter` over the
features of an element the guard reads. The theorems state, for every list, that the code as written now is the model,
and two consequences that hold of the code's own text (NumMembers = len(Members()); the allow-list verdict).
-/
namespace Swim.GenTie.Lists
open Swim.Select

def flag (b : Bool) : Int := if b then 1 else 0

/-- how the ties read a translated guard, which tests a flag against 0; the negated test too, since simp states
`x ≠ 0` as `¬ x = 0` (so no tie needs `flag_ne_zero`) -/
theorem flag_eq_zero (b : Bool) : flag b = 0 ↔ b = false := by cases b <;> decide

theorem flag_ne_zero (b : Bool) : (flag b ≠ 0) ↔ b = true := by cases b <;> simp [flag]

/-- `Memberlist.anyAlive` = `Select.anyAlive`, for every member list -/
theorem anyAlive_tie (self : String) (nodes : List SNode) :
    GenF.Lists.anyAlive (nodes.map fun n => (flag n.gone, flag (n.name == self))) = Swim.Select.anyAlive self nodes := by
  -- the translated guard, on the two flags of one member, is the model's test of that member
  have guard (gone same : Bool) : decide (¬ flag gone ≠ 0 ∧ flag same = 0) = (!gone && !same) := by
    cases gone <;> cases same <;> rfl
  simp only [GenF.Lists.anyAlive, Swim.Select.anyAlive, List.any_map, Function.comp_def, guard, bne]
  -- both sides are now the same `any`, the left one inside Go's `return true` in the loop / `return false` after it
  cases List.any _ _ <;> rfl

/-- `Memberlist.NumMembers` = `Select.numMembers` -/
theorem numMembers_tie (nodes : List SNode) :
    GenF.Lists.numMembers (nodes.map fun n => flag n.gone) = (Swim.Select.numMembers nodes : Int) := by
  simp [GenF.Lists.numMembers, Swim.Select.numMembers, List.countP_map, Function.comp_def, flag_eq_zero]

/-- `Memberlist.Members` keeps exactly the records `Select.members` keeps, in the same order -/
theorem members_tie (nodes : List SNode) :
    GenF.Lists.members (nodes.map fun n => flag n.gone) = (Swim.Select.members nodes).map (fun n => flag n.gone) := by
  simp [GenF.Lists.members, Swim.Select.members, List.filter_map, Function.comp_def, flag_eq_zero]

/-- `NumMembers()` is the length of `Members()` - for every member list, as the two functions are written in the
repository now. -/
theorem C07_numMembers_is_length_of_members (l : List Int) :
    GenF.Lists.numMembers l = ((GenF.Lists.members l).length : Int) := by
  unfold GenF.Lists.numMembers GenF.Lists.members
  simp [List.countP_eq_length_filter]

/-- `Config.IPMustBeChecked`: an allow-list is in force exactly when it has an entry -/
theorem ipMustBeChecked_tie (n : Nat) : GenF.Lists.ipMustBeChecked (n : Int) = decide (0 < n) := by
  unfold GenF.Lists.ipMustBeChecked; simp

theorem ipAllowed_flag (c : Bool) (l : List Bool) : GenF.Lists.ipAllowed (flag c) (l.map flag) = (!c || l.any id) := by
  -- an entry's flag is nonzero exactly when the entry is `true`: the loop over the flags is the `any` over the entries
  have entries : (l.map flag).any (fun x => decide (x ≠ 0)) = l.any id := by
    rw [List.any_map]
    congr
    funext b
    cases b <;> rfl
  rw [GenF.Lists.ipAllowed, entries]
  cases c <;> cases l.any id <;> rfl

/-- `Config.IPAllowed` = `Select.ipAllowed`: with no list everything is admitted; with a list, exactly the addresses
some configured network contains - in particular a list none of whose entries contains the address admits nothing,
whatever the entries look like. -/
theorem C18_ipAllowed_tie (contains : List Bool) :
    GenF.Lists.ipAllowed (flag (GenF.Lists.ipMustBeChecked (contains.length : Int))) (contains.map flag) = Swim.Select.ipAllowed contains := by
  rw [ipMustBeChecked_tie, ipAllowed_flag]
  cases contains <;> rfl

theorem C18_nonempty_list_admits_only_contained (contains : List Bool) (h : contains ≠ []) :
    Swim.Select.ipAllowed contains = true ↔ true ∈ contains := by
  unfold Swim.Select.ipAllowed
  cases contains with
  | nil => exact absurd rfl h
  | cons a as => simp

/-- `randomOffset(n)` is an index of the list: below `n` for every value of the generator (`n > 0`), so the
second loop of `kRandomNodes` never indexes out of range -/
theorem randomOffset_in_range (n r : Nat) (h : 0 < n) :
    0 ≤ GenF.Lists.randomOffset n r ∧ GenF.Lists.randomOffset n r < n := by
  rw [GenF.Lists.randomOffset, if_neg (Int.natCast_ne_zero.mpr (Nat.ne_of_gt h))]
  exact ⟨Int.tmod_nonneg _ (Int.natCast_nonneg r), Int.tmod_lt_of_pos _ (Int.natCast_pos.mpr h)⟩

theorem randomOffset_empty (r : Int) : GenF.Lists.randomOffset 0 r = 0 := by simp [GenF.Lists.randomOffset]

/-- what the translation left out: the read lock around each loop, released by a deferred call (so the
lock is held until the function returns - `Members()` and `NumMembers()` read the list under it) -/
theorem C07_loops_hold_the_read_lock :
    GenF.Lists.droppedCalls = ["Memberlist.Members: defer m.nodeLock.RUnlock", "Memberlist.Members: m.nodeLock.RLock",
      "Memberlist.NumMembers: defer m.nodeLock.RUnlock", "Memberlist.NumMembers: m.nodeLock.RLock",
      "Memberlist.anyAlive: defer m.nodeLock.RUnlock", "Memberlist.anyAlive: m.nodeLock.RLock"] := rfl

end Swim.GenTie.Lists
