import Swim.Gen.FuncsState
import Swim.Model.Merge
/-!
# state.go: `nodeState.DeadOrLeft` as translated (DESIGN 4.1b) is `St.deadOrLeft`, under the running code's state codes
-/
namespace Swim.GenTie.State
open Swim.GenF.State

/-- numeric code of a model state, as in state.go -/
def stCode : Merge.St → Nat
  | .alive => Gen.c_StateAlive | .suspect => Gen.c_StateSuspect | .dead => Gen.c_StateDead | .left => Gen.c_StateLeft

/-- `nodeState.DeadOrLeft` (state.go) = `St.deadOrLeft` -/
theorem deadOrLeft_tie (s : Merge.St) : deadOrLeft (stCode s : Int) = s.deadOrLeft := by
  cases s <;> decide

theorem dropped_calls_none : droppedCalls = [] := rfl

end Swim.GenTie.State
