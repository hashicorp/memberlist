import Swim.Gen.FuncsQueue
import Swim.Model.Queue
/-!
# queue.go: `limitedBroadcast.Less` as translated (DESIGN 4.1b) is `Queue.less`
-/
namespace Swim.GenTie.Queue
open Swim.GenF.Queue

/-- `limitedBroadcast.Less` (queue.go) = `Queue.less` -/
theorem bcastLess_tie (a b : Queue.Item) :
    bcastLess (a.id : Int) (b.id : Int) (a.len : Int) (b.len : Int) (a.tx : Int) (b.tx : Int) = Queue.less a b := by
  simp only [bcastLess, Queue.less, gt_iff_lt, Int.ofNat_lt, decide_true, decide_false]

theorem dropped_calls_none : droppedCalls = [] := rfl

end Swim.GenTie.Queue
