import Swim.Gen.FuncsKeyring
import Swim.Model.Keyring
/-!
# keyring.go: `ValidateKey` as translated (DESIGN 4.1b) is `Keyring.validLen`
-/
namespace Swim.GenTie.Keyring
open Swim.GenF.Keyring

/-- `ValidateKey` (keyring.go) = `Keyring.validLen` -/
theorem validateKey_tie (k : Keyring.Key) : validateKey (k.length : Int) = Keyring.validLen k := by
  simp only [validateKey, Keyring.validLen]
  norm_cast
  -- "differs from 16, from 24 and from 32: invalid" against "`==` 16, 24 or 32"
  simp [Bool.beq_eq_decide_eq]

theorem dropped_calls_none : droppedCalls = [] := rfl

end Swim.GenTie.Keyring
