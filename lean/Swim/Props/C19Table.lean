import Swim.Model.Handlers
import Swim.Lemmas.List
/-!
# C19: the pending-acknowledgement table

Every pending-probe record is discarded by its deadline; acknowledgements and nacks for unknown,
expired or foreign sequence numbers have no effect; a handler completes at most once (by its ack or
by its timeout, never both, never twice).
-/
namespace Swim.Handlers

/-- the pending records carry distinct sequence numbers, and none has reached its deadline: `tick` removes a
record at its deadline, so what is still in the table is still waited for -/
def Inv (t : T) : Prop := (t.hs.map (·.seq)).Nodup ∧ ∀ h ∈ t.hs, t.now < h.deadline

/-- what the callers of `setAckHandler` / `setProbeChannels` guarantee: a positive timeout, and a sequence number
that is not pending (`nextSeqNo` hands out fresh numbers, `C19_seqno_single_atomic_step`) -/
def opOk (t : T) : Op → Prop
  | .set seq timeout _ => 0 < timeout ∧ ∀ h ∈ t.hs, h.seq ≠ seq
  | _ => True

theorem step_inv (t : T) (op : Op) (h : Inv t) (hok : opOk t op) : Inv (step t op).1 := by
  obtain ⟨hn, hd⟩ := h
  cases op with
  | set seq timeout kind =>
    obtain ⟨ht, hf⟩ := hok
    refine ⟨?_, fun x hx => ?_⟩
    · show ((t.hs.filter _ ++ [_]).map H.seq).Nodup
      rw [List.map_append]
      refine (hn.map_filter _).concat fun ha => ?_
      obtain ⟨x, hx, e⟩ := List.mem_map.mp ha
      exact hf x (List.mem_filter.mp hx).1 e
    · rcases List.mem_append.mp hx with hx | hx
      · exact hd x (List.mem_filter.mp hx).1
      · rw [List.mem_singleton.mp hx]; exact Nat.lt_add_of_pos_right ht
  | ack seq =>
    simp only [step]
    cases t.hs.find? (·.seq == seq) with
    | none => exact ⟨hn, hd⟩
    | some x => exact ⟨hn.map_filter _, fun y hy => hd y (List.mem_filter.mp hy).1⟩
  | nack seq =>
    simp only [step]
    cases t.hs.find? (·.seq == seq) with
    | none => exact ⟨hn, hd⟩
    | some x => exact ⟨hn, hd⟩
  | tick d =>
    simp only [step]
    refine ⟨hn.map_filter _, ?_⟩
    intro x hx
    have := (List.mem_filter.mp hx).2
    simpa using this

/-- `opOk` of every operation of a run, each in the table the run has reached by then -/
def runOk : T → List Op → Prop
  | _, [] => True
  | t, op :: rest => opOk t op ∧ runOk (step t op).1 rest

/-- After any admissible sequence of registrations, acks, nacks and clock advances, every record still pending has its
deadline in the future: none outlives it. -/
theorem C19_table_discarded_by_deadline (ops : List Op) : ∀ (t : T), Inv t → runOk t ops → Inv (run t ops).1 := by
  -- for the fold that `run` is, from any accumulated event list
  suffices h : ∀ (a : T × List Ev), Inv a.1 → runOk a.1 ops →
      Inv (ops.foldl (fun (acc : T × List Ev) op => ((step acc.1 op).1, acc.2 ++ (step acc.1 op).2)) a).1 from
    fun t => h (t, [])
  induction ops with
  | nil => intro a h _; exact h
  | cons op ops ih => intro a h hok; exact ih _ (step_inv a.1 op h hok.1) hok.2

/-- An ack or a nack for a sequence number that is not pending (never registered, already consumed, or expired)
changes nothing and notifies nobody. -/
theorem C19_table_foreign_noop (t : T) (seq : Nat) (h : ∀ x ∈ t.hs, x.seq ≠ seq) :
    step t (.ack seq) = (t, []) ∧ step t (.nack seq) = (t, []) := by
  have : t.hs.find? (·.seq == seq) = none := by
    apply List.find?_eq_none.mpr
    intro x hx
    simpa using h x hx
  simp [step, this]

/-- A completion (the ack function or the timeout report) happens only for a pending handler and removes it: the
same handler cannot complete again. -/
theorem C19_table_completes_once (t : T) (op : Op) (hinv : Inv t) (s : Nat)
    (hev : Ev.ack s ∈ (step t op).2 ∨ Ev.timeout s ∈ (step t op).2) :
    (∃ x ∈ t.hs, x.seq = s) ∧ ∀ x ∈ (step t op).1.hs, x.seq ≠ s := by
  cases op with
  | set seq timeout kind => simp [step] at hev
  | ack seq =>
    simp only [step] at hev ⊢
    cases hf : t.hs.find? (·.seq == seq) with
    | none => simp [hf] at hev
    | some x =>
      simp only [hf, List.mem_singleton, Ev.ack.injEq, reduceCtorEq, or_false] at hev
      subst hev
      refine ⟨⟨x, List.mem_of_find?_eq_some hf, by simpa using List.find?_some hf⟩, ?_⟩
      intro y hy
      have := (List.mem_filter.mp hy).2
      simpa using this
  | nack seq =>
    simp only [step] at hev
    cases hf : t.hs.find? (·.seq == seq) with
    | none => simp [hf] at hev
    | some x =>
      simp only [hf] at hev
      split at hev <;> simp at hev
  | tick d =>
    simp only [step, List.mem_map, List.mem_filter, reduceCtorEq, and_false, exists_false, false_or,
      Ev.timeout.injEq] at hev ⊢
    obtain ⟨x, ⟨hx, hcond⟩, rfl⟩ := hev
    refine ⟨⟨x, hx, rfl⟩, fun y ⟨hy1, hy2⟩ e => ?_⟩
    -- the handler with that number is `x` itself, whose deadline has passed
    cases List.eq_of_nodup_map hinv.1 hy1 hx e
    simp only [Bool.and_eq_true, decide_eq_true_eq] at hcond hy2
    exact Nat.lt_irrefl _ (Nat.lt_of_lt_of_le hy2 hcond.1)

/-- non-vacuity: register 7 and 8, ack 7 twice, a foreign nack, let 8 expire -/
example : run {} [.set 7 500 .probe, .set 8 1000 .relay, .ack 7, .ack 7, .nack 9, .nack 8, .tick 400, .set 9 500 .probe, .tick 700] =
    ({ hs := [], now := 1100 }, [.ack 7, .timeout 9]) := by decide

end Swim.Handlers
