import Swim.Model.Msgpack
import Swim.Lemmas.Digits
/-!
# msgpack: the wire structs round-trip (part of C12)

Also: the framing of the push/pull state exchange (C09); decoders look only at what they consume (`ExtBy`
relates a decoder's outcome to its outcome on a longer input, with one `_extBy` lemma per decoder), so a
truncated struct is rejected (C13); and the port normalisation of `readRemoteState` (C01).
-/
namespace Swim.Msgpack

theorem toNat_b (n : Nat) : (b n).toNat = n % 256 :=
  UInt8.toNat_ofNat'

theorem toNat_b_of_lt {n : Nat} (h : n < 256) : (b n).toNat = n :=
  UInt8.toNat_ofNat_of_lt' h

theorem rd16_be16 (n : Nat) (r : Bytes) (h : n < 65536) : rd16 (be16 n ++ r) = some (n, r) := by
  simp only [be16, List.cons_append, List.nil_append, rd16, toNat_b, top_digit (d := 256) h, Nat.div_add_mod']

theorem rd32_be32 (n : Nat) (r : Bytes) (h : n < 4294967296) : rd32 (be32 n ++ r) = some (n, r) := by
  simp only [be32, List.cons_append, List.nil_append, rd32, toNat_b, top_digit (d := 16777216) h, digit_step,
    Nat.reduceMul, Nat.div_add_mod']

theorem rd64_be64 (n : Nat) (r : Bytes) (h : n < 18446744073709551616) : rd64 (be64 n ++ r) = some (n, r) := by
  simp only [be64, List.cons_append, List.nil_append, rd64, toNat_b, top_digit (d := 72057594037927936) h,
    digit_step, Nat.reduceMul, Nat.div_add_mod']

theorem decUint_encUint (n : Nat) (r : Bytes) (h : n < 18446744073709551616) :
    decUint (encUint n ++ r) = some (n, r) := by
  unfold encUint
  by_cases h1 : n ≤ 127
  · simp [h1, decUint, toNat_b_of_lt (Nat.lt_of_le_of_lt h1 (by decide))]
  by_cases h2 : n ≤ 255
  · simp [h1, h2, decUint, toNat_b, toNat_b_of_lt (Nat.lt_succ_of_le h2)]
  by_cases h3 : n ≤ 65535
  · simp [h1, h2, h3, decUint, toNat_b, rd16_be16 n r (Nat.lt_succ_of_le h3)]
  by_cases h4 : n ≤ 4294967295
  · simp [h1, h2, h3, h4, decUint, toNat_b, rd32_be32 n r (Nat.lt_succ_of_le h4)]
  · simp [h1, h2, h3, h4, decUint, toNat_b, rd64_be64 n r h]

theorem decInt_encInt (n : Nat) (r : Bytes) (h : n < 9223372036854775808) :
    decInt (encInt n ++ r) = some (n, r) := by
  unfold encInt
  by_cases h1 : n ≤ 127
  · simp [h1, decInt, toNat_b_of_lt (Nat.lt_of_le_of_lt h1 (by decide))]
  by_cases h2 : n ≤ 32767
  · simp [h1, h2, decInt, toNat_b, rd16_be16 n r (Nat.lt_of_le_of_lt h2 (by decide))]
  by_cases h3 : n ≤ 2147483647
  · simp [h1, h2, h3, decInt, toNat_b, rd32_be32 n r (Nat.lt_of_le_of_lt h3 (by decide))]
  · simp [h1, h2, h3, decInt, toNat_b, rd64_be64 n r (Nat.lt_trans h (by decide)), Nat.le_of_lt_succ h]

theorem takeN_append (s r : Bytes) : takeN s.length (s ++ r) = some (s, r) := by
  simp [takeN]

theorem decRaw_encRaw (s r : Bytes) (h : s.length < 4294967296) : decRaw (encRaw s ++ r) = some (s, r) := by
  unfold encRaw
  by_cases h1 : s.length < 32
  · have hlt : 160 + s.length < 192 := Nat.add_lt_add_left h1 160
    have e : (b (160 + s.length)).toNat = 160 + s.length := toNat_b_of_lt (Nat.lt_trans hlt (by decide))
    simp [h1, decRaw, e, Nat.le_of_lt_succ hlt, takeN_append]
  by_cases h2 : s.length < 65536
  · simp [h1, h2, decRaw, toNat_b, rd16_be16 s.length (s ++ r) h2, takeN_append]
  · simp [h1, h2, decRaw, toNat_b, rd32_be32 s.length (s ++ r) h, takeN_append]

theorem decBool_encBool (v : Bool) (r : Bytes) : decBool (encBool v ++ r) = some (v, r) := by
  cases v <;> simp [encBool, decBool, toNat_b]

/-- sizes the encoder can represent: 64-bit unsigned, 63-bit non-negative int, 32-bit lengths -/
def Val.Bounded : Val → Prop
  | .uint n => n < 18446744073709551616
  | .int n => n < 9223372036854775808
  | .str s => s.length < 4294967296
  | .bytes none => True
  | .bytes (some s) => s.length < 4294967296
  | .bool _ => True

/-- the first byte of a raw header is never the nil marker -/
theorem encRaw_head_ne_nil (s : Bytes) : ∃ t rest, encRaw s = t :: rest ∧ t.toNat ≠ 0xc0 := by
  unfold encRaw
  by_cases h1 : s.length < 32
  · rw [if_pos h1]
    refine ⟨_, _, rfl, ?_⟩
    rw [toNat_b_of_lt (by omega)]
    omega
  · rw [if_neg h1]
    by_cases h2 : s.length < 65536
    · rw [if_pos h2]
      exact ⟨_, _, rfl, by decide⟩
    · rw [if_neg h2]
      exact ⟨_, _, rfl, by decide⟩

theorem decVal_encVal (v : Val) (r : Bytes) (h : v.Bounded) : decVal v.ty (encVal v ++ r) = some (v, r) := by
  cases v with
  | uint n => simp [decVal, encVal, Val.ty, decUint_encUint n r h]
  | int n => simp [decVal, encVal, Val.ty, decInt_encInt n r h]
  | str s => simp [decVal, encVal, Val.ty, decRaw_encRaw s r h]
  | bool v => simp [decVal, encVal, Val.ty, decBool_encBool]
  | bytes o =>
    cases o with
    | none => simp [decVal, encVal, Val.ty, toNat_b]
    | some s =>
      obtain ⟨t, rest, he, hne⟩ := encRaw_head_ne_nil s
      have hd := decRaw_encRaw s r h
      simp only [decVal, encVal, Val.ty]
      rw [he, List.cons_append] at hd ⊢
      simp [hne, hd]

theorem matchKey_encRaw (name g r : Bytes) (h : g.length < 4294967296) :
    matchKey name (encRaw g ++ r) = if g = name then some r else none := by
  simp only [matchKey, decRaw_encRaw g r h]

/-- a value list fits a schema: types, sizes, and `omitempty` fields that are empty hold the zero value
(a decoder cannot tell an omitted empty slice from an omitted nil one) -/
def WF : List Field → List Val → Prop
  | [], [] => True
  | f :: fs, v :: vs => v.ty = f.ty ∧ v.Bounded ∧ (f.omitE = true → v.isEmpty = true → v = zero f.ty) ∧ WF fs vs
  | _, _ => False

def NamesOk (fs : List Field) : Prop :=
  (fs.map (·.name)).Nodup ∧ ∀ f ∈ fs, f.name.length < 4294967296

theorem NamesOk.tail {f : Field} {fs : List Field} (h : NamesOk (f :: fs)) : NamesOk fs :=
  ⟨(List.nodup_cons.mp h.1).2, fun g hg => h.2 g (List.mem_cons_of_mem _ hg)⟩

theorem encFields_head (fs : List Field) (vs : List Val) (h : count fs vs ≠ 0) :
    ∃ g ∈ fs, ∃ rest, encFields fs vs = encRaw g.name ++ rest := by
  induction fs generalizing vs with
  | nil => exact absurd rfl h
  | cons f fs ih =>
    cases vs with
    | nil => exact absurd rfl h
    | cons v vs =>
      rw [encFields]
      rw [count] at h
      cases hp : present f v
      case true => exact ⟨f, List.mem_cons_self, encVal v ++ encFields fs vs, by rw [if_pos rfl, List.append_assoc]⟩
      case false =>
        rw [hp, if_neg Bool.false_ne_true, Nat.zero_add] at h
        obtain ⟨g, hg, rest, he⟩ := ih vs h
        exact ⟨g, List.mem_cons_of_mem _ hg, rest, by rw [if_neg Bool.false_ne_true, List.nil_append, he]⟩

/-- a non-empty field list starts with the key of one of its fields (`encFields_head`), which is not `name` -/
theorem matchKey_encFields {name : Bytes} (r : Bytes) (fs : List Field) (vs : List Val)
    (hn : name ∉ fs.map (·.name)) (hl : ∀ f ∈ fs, f.name.length < 4294967296) (hc : count fs vs ≠ 0) :
    matchKey name (encFields fs vs ++ r) = none := by
  obtain ⟨g, hg, rest, he⟩ := encFields_head fs vs hc
  rw [he, List.append_assoc, matchKey_encRaw _ _ _ (hl g hg), if_neg fun (e : g.name = name) => hn (e ▸ List.mem_map_of_mem hg)]

theorem decFields_encFields (fs : List Field) (vs : List Val) (r : Bytes) (hwf : WF fs vs) (hn : NamesOk fs) :
    decFields fs (count fs vs) (encFields fs vs ++ r) = some (vs, r) := by
  induction fs generalizing vs with
  | nil =>
    cases vs with
    | nil => rfl
    | cons v vs => exact hwf.elim
  | cons f fs ih =>
    cases vs with
    | nil => exact hwf.elim
    | cons v vs =>
      obtain ⟨hty, hb, hz, hrest⟩ := hwf
      have ih' := ih vs hrest hn.tail
      rw [decFields, count, encFields]
      cases hp : present f v
      case true =>
        -- a field that was written: its key is next on the wire, then its value
        have hkey : matchKey f.name (encRaw f.name ++ encVal v ++ encFields fs vs ++ r) =
            some (encVal v ++ (encFields fs vs ++ r)) := by
          rw [List.append_assoc, List.append_assoc, matchKey_encRaw _ _ _ (hn.2 f List.mem_cons_self), if_pos rfl]
        simp only [if_true, Nat.add_comm 1, Nat.succ_ne_zero, if_false, hkey, ← hty, decVal_encVal v _ hb,
          Nat.add_sub_cancel, ih']
      case false =>
        -- a field that was left out (`omitempty`, and empty): no key is read for it, since either no entry is left or
        -- the next key belongs to a later field; so it reads as the zero value, which is what it held
        have hom : f.omitE = true ∧ v.isEmpty = true := by simpa [present] using hp
        have hkey : (if count fs vs = 0 then none else matchKey f.name (encFields fs vs ++ r)) = none :=
          ite_eq_left_iff.mpr (matchKey_encFields r fs vs (List.nodup_cons.mp hn.1).1 hn.tail.2)
        simp only [Bool.false_eq_true, if_false, List.nil_append, Nat.zero_add, hkey, hom.1, if_true, ih',
          hz hom.1 hom.2]

theorem count_le : ∀ (fs : List Field) (vs : List Val), count fs vs ≤ fs.length
  | [], _ | _ :: _, [] => Nat.zero_le _
  | f :: fs, v :: vs => by
    rw [count, List.length_cons, Nat.add_comm]
    exact Nat.add_le_add (count_le fs vs) (by cases present f v <;> decide)

/-- The round trip for any schema with distinct key names and fewer than 16 fields (a fixmap header): the
encoding of a well-formed value list is decoded back to it, whatever follows on the wire. -/
theorem decStruct_encStruct (fs : List Field) (vs : List Val) (r : Bytes) (hwf : WF fs vs) (hn : NamesOk fs)
    (hlen : fs.length < 16) : decStruct fs (encStruct fs vs ++ r) = some (vs, r) := by
  have hc : 128 + count fs vs < 144 := Nat.add_lt_add_left (Nat.lt_of_le_of_lt (count_le fs vs) hlen) 128
  have e : (b (128 + count fs vs)).toNat = 128 + count fs vs := toNat_b_of_lt (Nat.lt_trans hc (by decide))
  rw [encStruct, List.cons_append, decStruct, e, if_pos ⟨Nat.le_add_right .., Nat.le_of_lt_succ hc⟩,
    Nat.add_sub_cancel_left, decFields_encFields fs vs r hwf hn]

instance (fs : List Field) : Decidable (NamesOk fs) := by unfold NamesOk; exact inferInstance

theorem schema_ok (k : Kind) : NamesOk (schema k) ∧ (schema k).length < 16 := by
  cases k <;> decide

/-- `decStruct_encStruct` for each of the twelve structs memberlist puts on the wire - their schemas have
distinct, short field names and fewer than 16 fields (`schema_ok`). -/
theorem C12_msgpack_roundtrip (k : Kind) (vs : List Val) (r : Bytes) (hwf : WF (schema k) vs) :
    decStruct (schema k) (encStruct (schema k) vs ++ r) = some (vs, r) :=
  decStruct_encStruct (schema k) vs r hwf (schema_ok k).1 (schema_ok k).2

/-- two well-formed messages with the same bytes are equal -/
theorem C12_msgpack_injective (k : Kind) (vs ws : List Val) (hv : WF (schema k) vs) (hw : WF (schema k) ws)
    (h : encStruct (schema k) vs = encStruct (schema k) ws) : vs = ws := by
  have a := C12_msgpack_roundtrip k vs [] hv
  have c := C12_msgpack_roundtrip k ws [] hw
  rw [h] at a
  rw [a] at c
  simpa using c

/-- the premises are met by a real message (a ping with a source address, as `probeNode` sends it) -/
example : WF (schema .ping) [.str (s ['n', '1']), .uint 70000, .bytes (some [10, 0, 0, 9]), .str (s ['S']), .uint 7946] := by
  simp only [WF, schema, Val.Bounded]
  decide

theorem decStates_encStates (sts : List (List Val)) (r : Bytes)
    (hwf : ∀ st ∈ sts, WF (schema .pushNodeState) st) :
    decStates sts.length (encStates sts ++ r) = some (sts, r) := by
  induction sts with
  | nil => rfl
  | cons st sts ih =>
    have h1 := C12_msgpack_roundtrip .pushNodeState st (encStates sts ++ r) (hwf st List.mem_cons_self)
    have h2 := ih (fun x hx => hwf x (List.mem_cons_of_mem _ hx))
    simp only [List.length_cons, decStates, encStates, List.append_assoc, h1, h2]

/-- What `sendLocalState` writes behind the type byte - the header, one node state after the other, the user
state - is read back by the receiver's parser as the same join flag, the same node states in the same order
and the same user state, and the parser stops exactly at the end of the exchange. -/
theorem C09_pushpull_framing_roundtrip (join : Bool) (sts : List (List Val)) (user rest : Bytes)
    (hwf : ∀ st ∈ sts, WF (schema .pushNodeState) st)
    (hn : sts.length < 9223372036854775808) (hu : user.length < 9223372036854775808) :
    decPushPull (encPushPull join sts user ++ rest) = some (join, sts, user, rest) := by
  -- the header is well formed: per field its type, its size, and that it is not `omitempty`
  have hh : WF (schema .pushPullHeader) [.bool join, .int sts.length, .int user.length] :=
    ⟨rfl, trivial, nofun, rfl, hn, nofun, rfl, hu, nofun, trivial⟩
  rw [decPushPull, encPushPull, List.append_assoc, C12_msgpack_roundtrip .pushPullHeader _ _ hh]
  simp only [List.append_assoc, decStates_encStates sts _ hwf, takeN_append, Option.map_some]

/-- `y` is the outcome `x` of a decoder once `s` follows its input: the same value, `s` left unread. Stated of
outcomes so that it composes along a decoder's conditionals and matches (`ite`, `elim`, `map`). -/
def ExtBy {α : Type} (s : Bytes) (x y : Option (α × Bytes)) : Prop :=
  ∀ a r, x = some (a, r) → y = some (a, r ++ s)

namespace ExtBy
variable {α β : Type} {s : Bytes}

theorem none {y : Option (α × Bytes)} : ExtBy s none y := fun _ _ h => nomatch h

theorem some {a : α} {r : Bytes} : ExtBy s (some (a, r)) (some (a, r ++ s)) := fun _ _ h => by cases h; rfl

theorem ite {c : Prop} [Decidable c] {x y x' y' : Option (α × Bytes)} (h : ExtBy s x y) (h' : ExtBy s x' y') :
    ExtBy s (if c then x else x') (if c then y else y') := by
  split <;> assumption

/-- whatever is computed from an intermediate outcome: check it on a failure and on a matching pair -/
@[elab_as_elim]
theorem elim {motive : Option (β × Bytes) → Option (β × Bytes) → Prop} {x y : Option (β × Bytes)} (h : ExtBy s x y)
    (none : ∀ y, motive .none y) (some : ∀ b r, motive (.some (b, r)) (.some (b, r ++ s))) : motive x y := by
  match x, h with
  | .none, _ => exact none y
  | .some (b, r), h => rw [h b r rfl]; exact some b r

theorem map {x y : Option (β × Bytes)} (g : β → α) (h : ExtBy s x y) :
    ExtBy s (x.map (Prod.map g id)) (y.map (Prod.map g id)) :=
  h.elim (fun _ => none) fun _ _ => some

end ExtBy

theorem rd16_extBy (bs s : Bytes) : ExtBy s (rd16 bs) (rd16 (bs ++ s)) := fun _ _ h =>
  match bs, h with
  | _ :: _ :: _, h => by cases h; rfl

theorem rd32_extBy (bs s : Bytes) : ExtBy s (rd32 bs) (rd32 (bs ++ s)) := fun _ _ h =>
  match bs, h with
  | _ :: _ :: _ :: _ :: _, h => by cases h; rfl

theorem rd64_extBy (bs s : Bytes) : ExtBy s (rd64 bs) (rd64 (bs ++ s)) := fun _ _ h =>
  match bs, h with
  | _ :: _ :: _ :: _ :: _ :: _ :: _ :: _ :: _, h => by cases h; rfl

theorem takeN_extBy (n : Nat) (bs s : Bytes) : ExtBy s (takeN n bs) (takeN n (bs ++ s)) := by
  unfold takeN
  by_cases hn : n ≤ bs.length
  · rw [if_pos hn, if_pos (List.length_append ▸ Nat.le_add_right_of_le hn), List.take_append_of_le_length hn,
      List.drop_append_of_le_length hn]
    exact .some
  · rw [if_neg hn]
    exact .none

theorem decUint_extBy (bs s : Bytes) : ExtBy s (decUint bs) (decUint (bs ++ s)) := by
  match bs with
  | [] => exact .none
  | t :: tl =>
    refine .ite .some (.ite ?_ (.ite (rd16_extBy tl s) (.ite (rd32_extBy tl s) (.ite (rd64_extBy tl s) .none))))
    match tl with
    | [] => exact .none
    | _ :: _ => exact .some

theorem decUint_ext {bs r s : Bytes} {n : Nat} (h : decUint bs = some (n, r)) :
    decUint (bs ++ s) = some (n, r ++ s) :=
  decUint_extBy bs s n r h

theorem decBool_extBy (bs s : Bytes) : ExtBy s (decBool bs) (decBool (bs ++ s)) := by
  match bs with
  | [] => exact .none
  | _ :: _ => exact .ite .some (.ite .some .none)

theorem decInt_extBy (bs s : Bytes) : ExtBy s (decInt bs) (decInt (bs ++ s)) := by
  match bs with
  | [] => exact .none
  | t :: tl =>
    refine .ite .some (.ite ?_ (.ite ?_ (.ite ?_ .none)))
    · exact (rd16_extBy tl s).elim (fun _ => .none) fun _ _ => .ite .some .none
    · exact (rd32_extBy tl s).elim (fun _ => .none) fun _ _ => .ite .some .none
    · exact (rd64_extBy tl s).elim (fun _ => .none) fun _ _ => .ite .some .none

theorem decRaw_extBy (bs s : Bytes) : ExtBy s (decRaw bs) (decRaw (bs ++ s)) := by
  match bs with
  | [] => exact .none
  | t :: tl =>
    refine .ite (takeN_extBy _ tl s) (.ite ?_ (.ite ?_ .none))
    · exact (rd16_extBy tl s).elim (fun _ => .none) fun n r' => takeN_extBy n r' s
    · exact (rd32_extBy tl s).elim (fun _ => .none) fun n r' => takeN_extBy n r' s

theorem decVal_extBy (ty : Ty) (bs s : Bytes) : ExtBy s (decVal ty bs) (decVal ty (bs ++ s)) := by
  cases ty <;> simp only [decVal]
  case uint => exact (decUint_extBy bs s).map Val.uint
  case int => exact (decInt_extBy bs s).map Val.int
  case str => exact (decRaw_extBy bs s).map Val.str
  case bool => exact (decBool_extBy bs s).map Val.bool
  case bytes =>
    match bs with
    | [] => exact .none
    | t :: tl => exact .ite .some ((decRaw_extBy (t :: tl) s).map fun a => Val.bytes (some a))

theorem matchKey_append {name bs k r : Bytes} (s : Bytes) (h : decRaw bs = some (k, r)) :
    matchKey name (bs ++ s) = (matchKey name bs).map (· ++ s) := by
  simp only [matchKey, decRaw_extBy bs s k r h, h]
  split <;> rfl

theorem decFields_of_no_key {k : Nat} {bs : Bytes} (hk : k ≠ 0) (h : decRaw bs = none) :
    ∀ fs, decFields fs k bs = none
  | [] => by cases k with | zero => exact absurd rfl hk | succ _ => rfl
  | f :: fs => by simp [decFields, matchKey, h, hk, decFields_of_no_key hk h fs]

theorem decFields_extBy (fs : List Field) (s : Bytes) :
    ∀ k bs, ExtBy s (decFields fs k bs) (decFields fs k (bs ++ s)) := by
  induction fs with
  | nil =>
    intro k bs
    cases k with
    | zero => exact .some
    | succ _ => exact .none
  | cons f fs ih =>
    intro k bs
    by_cases hk : k = 0
    · simp only [decFields, hk, if_true]
      exact .ite ((ih 0 bs).elim (fun _ => .none) fun _ _ => .some) .none
    · -- with entries left to read: no key next and the parse fails; a key next, and more input does not change which
      cases hkey : decRaw bs with
      | none => rw [decFields_of_no_key hk hkey]; exact .none
      | some p =>
        simp only [decFields, hk, if_false, matchKey_append s hkey]
        cases matchKey f.name bs <;> simp only [Option.map]
        case none => exact .ite ((ih k bs).elim (fun _ => .none) fun _ _ => .some) .none
        case some bs' =>
          refine (decVal_extBy f.ty bs' s).elim (fun _ => .none) fun v bs'' => ?_
          dsimp only
          exact (ih (k - 1) bs'').elim (fun _ => .none) fun _ _ => .some

theorem decFields_ext (fs : List Field) (k : Nat) (bs s : Bytes) (vs : List Val) (r : Bytes)
    (h : decFields fs k bs = some (vs, r)) : decFields fs k (bs ++ s) = some (vs, r ++ s) :=
  decFields_extBy fs s k bs vs r h

theorem decStruct_extBy (fs : List Field) (bs s : Bytes) : ExtBy s (decStruct fs bs) (decStruct fs (bs ++ s)) := by
  match bs with
  | [] => exact .none
  | t :: tl => exact .ite (decFields_extBy fs s _ tl) .none

theorem decStruct_ext (fs : List Field) (bs s : Bytes) (vs : List Val) (r : Bytes)
    (h : decStruct fs bs = some (vs, r)) : decStruct fs (bs ++ s) = some (vs, r ++ s) :=
  decStruct_extBy fs bs s vs r h

/-- No strict prefix of the encoding of a well-formed message is accepted by the decoder - a message cut
anywhere is rejected as a whole, never read as a shorter one. -/
theorem C13_struct_truncation_rejected (k : Kind) (vs : List Val) (hwf : WF (schema k) vs) (p suffix : Bytes)
    (h : encStruct (schema k) vs = p ++ suffix) (hs : suffix ≠ []) : decStruct (schema k) p = none := by
  cases hd : decStruct (schema k) p with
  | none => rfl
  | some res =>
    obtain ⟨vs', r'⟩ := res
    have e := decStruct_ext (schema k) p suffix vs' r' hd
    have rt := C12_msgpack_roundtrip k vs [] hwf
    rw [List.append_nil, h, e] at rt
    simp only [Option.some.injEq, Prod.mk.injEq, List.append_eq_nil_iff] at rt
    exact absurd rt.2.2 hs

theorem WF_tys : ∀ {fs : List Field} {vs : List Val}, WF fs vs → vs.map Val.ty = fs.map (·.ty)
  | [], [], _ => rfl
  | _ :: _, _ :: _, h => by rw [List.map_cons, List.map_cons, h.1, WF_tys h.2.2.2]

/-- With a non-zero configured port, every node state `readRemoteState` hands to the merge carries a non-zero port (the
configured one where the wire had none) and is otherwise the state received. What it is for: a port-less entry is then
the same address as the one a member holds with the configured port, not a "different address" that would take the
name-reclaim path around the incarnation check. -/
theorem C01_remote_state_ports_normalised (bindPort : Nat) (all : Bool) (hb : bindPort ≠ 0) (st : List Val)
    (hwf : WF (schema .pushNodeState) st) :
    ∃ a i m n p s v, normState bindPort all st = [a, i, m, n, .uint p, s, v] ∧ p ≠ 0 ∧
      (st = [a, i, m, n, .uint (if p = bindPort then (match st with | [_, _, _, _, .uint q, _, _] => q | _ => 0) else p), s, v]) := by
  -- the schema fixes the shape of `st`: seven fields, the fifth an unsigned integer
  have h : st.map Val.ty = [.bytes, .uint, .bytes, .str, .uint, .int, .bytes] := WF_tys hwf
  simp only [List.map_eq_cons_iff, List.map_eq_nil_iff] at h
  obtain ⟨a, _, rfl, -, i, _, rfl, -, m, _, rfl, -, n, _, rfl, -, p, _, rfl, hp, s, _, rfl, -, v, _, rfl, -, rfl⟩ := h
  cases p with
  | uint q =>
    by_cases hc : (all || q == 0) = true
    · exact ⟨a, i, m, n, bindPort, s, v, by rw [normState, if_pos hc], hb, by rw [if_pos rfl]⟩
    · exact ⟨a, i, m, n, q, s, v, by rw [normState, if_neg hc], fun h0 => hc (by rw [h0]; exact Bool.or_true all),
        by rw [ite_self]⟩
  | _ => cases hp

end Swim.Msgpack
