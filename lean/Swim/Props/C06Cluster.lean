import Swim.Props.C06History
import Swim.Props.Projection
/-!
# C06 at cluster level: confirmation bookkeeping in every node of every cluster history
-/
namespace Swim.Cluster
open Swim.Merge

/-- For every node `y` of every cluster history that starts with `TimerOk` at `y` (in particular with no timer: a fresh
cluster): each live suspicion timer belongs to a member `y` holds as suspect, there is one timer per member at most, its
confirmers are pairwise distinct, and the count of confirmations is the number of confirmers less one (the accuser)
and at most `k`. -/
theorem C06_cluster_confirmations (w : World) (ops : List COp) (y : String) (n0 : Node) (h0 : nodeAt w y = some n0)
    (ht : TimerOk n0) : ∃ n1, nodeAt (w.run ops) y = some n1 ∧ TimerOk n1  :=
  ⟨_, projection_fold ops w y n0 h0, C06_history_confirmations n0 _ ht⟩

end Swim.Cluster
