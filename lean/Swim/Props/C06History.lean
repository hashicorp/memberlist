import Swim.Lemmas.Rules
/-!
# C06 over histories: the confirmation bookkeeping of every suspicion timer

The invariant `TimerOk` is kept by every operation of the single-node model (hence, by projection, at every node of
every cluster history).
-/
namespace Swim.Merge

/-- the bookkeeping of the suspicion timers: one timer per member at most; in each the confirmers are distinct, the
count is the confirmers beyond the accuser and at most `k`, and the member is held as suspect -/
def TimerOk (n : Node) : Prop :=
  (n.timers.map (·.node)).Nodup ∧
  ∀ t ∈ n.timers, t.confirmers.Nodup ∧ t.n + 1 = t.confirmers.length ∧ t.n ≤ t.k ∧
    ∃ r, lookup n.recs t.node = some r ∧ r.st = .suspect

theorem timerOk_same (n n' : Node) (h : TimerOk n) (ht : n'.timers = n.timers)
    (hr : ∀ t ∈ n.timers, ∀ r, lookup n.recs t.node = some r → r.st = .suspect →
      ∃ r', lookup n'.recs t.node = some r' ∧ r'.st = .suspect) : TimerOk n' := by
  refine ⟨by rw [ht]; exact h.1, ?_⟩
  intro t htm
  rw [ht] at htm
  obtain ⟨a, b, c, r, hl, hs⟩ := h.2 t htm
  exact ⟨a, b, c, hr t htm r hl hs⟩

theorem timerOk_delTimer (n n' : Node) (name : String) (h : TimerOk n) (ht : n'.timers = delTimer n.timers name)
    (hrecs : ∀ y, y ≠ name → lookup n'.recs y = lookup n.recs y) : TimerOk n' := by
  rw [TimerOk, ht]
  refine ⟨h.1.map_filter _, fun t ht => ?_⟩
  obtain ⟨hm, hne⟩ := delTimer_sub ht
  rw [hrecs t.node hne]
  exact h.2 t hm

theorem refute_timerOk (n : Node) (me : Rec) (acc : Nat) (h : TimerOk n) (hme : lookup n.recs me.name = some me)
    (hal : me.st ≠ .suspect) : TimerOk (refute n me acc).1 := by
  refine timerOk_same n _ h rfl fun t _ r hl hs => ⟨r, ?_, hs⟩
  have : t.node ≠ me.name := fun e => by rw [e, hme] at hl; cases hl; exact hal hs
  simpa [this] using hl

theorem suspect_timerOk (n : Node) (s : Claim) (env : Env) (h : TimerOk n) : TimerOk (suspectNode n s env).1 := by
  rcases suspectNode_cases n s env with e | ⟨r, hr, _, ⟨t, hf, _, e⟩ | ⟨hf, hal, ⟨_, e⟩ | ⟨_, e⟩⟩⟩ <;> rw [e]
  · exact h
  · have htm : t ∈ n.timers := List.mem_of_find?_eq_some hf
    have htn : t.node = s.node := by simpa using List.find?_some hf
    obtain ⟨c1, c2, c3⟩ := t.confirm_ok s.frm ⟨(h.2 t htm).1, (h.2 t htm).2.1, (h.2 t htm).2.2.1⟩
    have c4 := t.confirm_node s.frm
    refine ⟨?_, fun t' ht' => ?_⟩
    · -- the confirmed timer keeps its name
      have : ∀ x : Timer, (if x.node == s.node then (t.confirm s.frm).1 else x).node = x.node := by
        intro x; split
        · next hx => rw [c4, htn]; exact (beq_iff_eq.mp hx).symm
        · rfl
      simpa only [List.map_map, Function.comp_def, this] using h.1
    · obtain ⟨t0, ht0, rfl⟩ := List.mem_map.mp ht'
      split
      · exact ⟨c1, c2, c3, c4 ▸ (h.2 t htm).2.2.2⟩
      · exact h.2 t0 ht0
  · exact refute_timerOk n r s.inc h (lookup_name hr ▸ hr) (by simp [hal])
  · -- a new suspicion
    have hno : ∀ t ∈ n.timers, t.node ≠ s.node := fun t ht e => by simpa [e] using List.find?_eq_none.mp hf t ht
    refine ⟨?_, fun t ht => ?_⟩
    · simp only [List.map_append, List.map_cons, List.map_nil]
      exact h.1.concat fun ha => by
        obtain ⟨t, ht, e⟩ := List.mem_map.mp ha
        exact hno t ht e
    · rcases List.mem_append.mp ht with ht | ht
      · obtain ⟨a, b, c, r', hr', hs⟩ := h.2 t ht
        exact ⟨a, b, c, r', by simpa [lookup_name hr, hno t ht] using hr', hs⟩
      · cases List.mem_singleton.mp ht
        exact ⟨by simp, rfl, Nat.zero_le _, { r with inc := s.inc, st := .suspect, changed := some env.now },
          by simp [lookup_name hr, hr], rfl⟩

theorem dead_timerOk (n : Node) (d : Claim) (env : Env) (h : TimerOk n) : TimerOk (deadNode n d env).1 := by
  have hf := deadNode_frame n d env
  rcases deadNode_cases n d env with ⟨_, e⟩ | ⟨r, hr, _, ⟨_, e⟩ | ⟨_, ⟨_, _, e⟩ | ⟨_, e⟩⟩⟩ <;> rw [e] at hf ⊢
  · exact h
  -- every other branch deletes the member's timer and touches its record only (`hf`): the record of every surviving
  -- timer is untouched
  · exact timerOk_delTimer n _ d.node h rfl hf
  · exact timerOk_delTimer n _ d.node h (refute_timers ..) hf
  · exact timerOk_delTimer n _ d.node h rfl hf

theorem alive_timerOk (n : Node) (a : AliveMsg) (nt b : Bool) (env : Env) (h : TimerOk n) :
    TimerOk (aliveNode n a nt b env).1 := by
  refine aliveNode_elim (R := fun n res => TimerOk n → TimerOk res.1) a nt b env ?_ (fun _ h => h) ?_ n h
  · intro n r hr h
    have hf := aliveNode_frame n a nt b env
    rcases aliveNode_known n a nt b env r hr with e | ⟨_, _, _, e⟩ | ⟨_, _, _, _, e⟩ | ⟨_, _, _, _, e⟩ | ⟨_, _, _, e⟩
      <;> rw [e] at hf ⊢
    · exact h
    · exact h
    -- as in `dead_timerOk`
    · exact timerOk_delTimer n _ a.node h rfl hf
    · exact timerOk_delTimer n _ a.node h (refute_timers ..) hf
    · exact timerOk_delTimer n _ a.node h rfl hf
  · intro n res _ _ hres h
    exact hres <| timerOk_same n _ h rfl fun t _ r hl hs => ⟨r, lookup_withStub_of_some a hl, hs⟩

theorem step_timerOk (n : Node) (op : Op) (h : TimerOk n) : TimerOk (step n op).1 := by
  refine step_inv (alive := alive_timerOk) (suspect := suspect_timerOk) (dead := dead_timerOk) (reap := ?_) (age := ?_)
    (selfInc := fun _ _ h => h) (left := fun _ h => h) n op h
  · intro n h
    refine timerOk_same n _ h rfl fun t _ r hl hs => ⟨r, ?_, hs⟩
    exact (lookup_filter fun r' hr' => by cases hl.symm.trans hr'; simp [hs, St.deadOrLeft]).trans hl
  · intro n nm h
    refine timerOk_same n _ h rfl fun t _ r hl hs => ?_
    rw [lookup_ageRec, hl]
    exact ⟨_, rfl, hs⟩

/-- Every sequence of operations keeps `TimerOk` (a node without timers has it: `timerOk_fresh`): every live suspicion
timer belongs to a member currently held as suspect, no member has two timers, each distinct confirmer counts once
except the accuser (the count is the number of recorded confirmers less one), and the count stays at or below `k`. -/
theorem C06_history_confirmations (n : Node) (ops : List Op) (h : TimerOk n) :
    TimerOk (ops.foldl (fun n op => (step n op).1) n) :=
  List.foldlRecOn ops _ h fun n hn op _ => step_timerOk n op hn

theorem timerOk_fresh (n : Node) (h : n.timers = []) : TimerOk n := by
  refine ⟨by rw [h]; simp, ?_⟩
  intro t ht; rw [h] at ht; cases ht

end Swim.Merge
