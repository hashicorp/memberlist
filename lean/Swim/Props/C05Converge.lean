import Swim.Props.ClusterG
import Swim.Props.C05
import Swim.Props.C09
/-!
# C05: a cluster in which state exchanges change nothing has converged
`C05_cluster_quiescent_agrees` (histories of fewer than 2^32 steps: no incarnation counter wraps): the only fixed
points of push/pull are converged views. A split can persist only between nodes that no longer exchange state (the
stable split of the known finding: they hold each other dead and never select each other).
-/
namespace Swim.Cluster
open Swim.Merge

/-- no entry of `X`'s state list, its address admitted, changes `y` -/
def Quiet (X y : Node) : Prop := ∀ r ∈ X.recs, ∀ env : Env, env.ipAllowed = true → (receive (.state (stateOfRec r)) env y).1 = y

/-- In a reachable state in which no entry of `X`'s state list changes `y` any more and none of `y`'s changes
`X`: `y` (without an alive delegate) holds the running member `X` (sane protocol versions) alive, at `X`'s own
incarnation and with `X`'s own metadata. -/
theorem C05_cluster_quiescent_agrees (w0 : World) (ops : List COp) (hfresh : Fresh w0) (hlen : ops.length + 1 < u32)
    (X y : Node) (hX : X ∈ (w0.run ops).nodes) (hy : y ∈ (w0.run ops).nodes) (hne : X.cfg.self ≠ y.cfg.self)
    (me : Rec) (hme : selfRec X = some me) (hal : me.st = .alive) (hrun : X.hasLeft = false)
    (hv : vsnBad me.vsn = false) (hdel : y.cfg.hasAliveDelegate = false)
    (hq1 : Quiet X y) (hq2 : Quiet y X) :
    ∃ r, lookup y.recs X.cfg.self = some r ∧ r.st = .alive ∧ r.inc = me.inc ∧ r.md = me.md := by
  have hinv := ginv_reachable ops hfresh (Nat.lt_of_succ_lt hlen)
  generalize w0.run ops = w at *
  obtain ⟨env, henv⟩ : ∃ e : Env, e.ipAllowed = true := ⟨{ now := 0, ipAllowed := true, delegateOk := true, offset := 0 }, rfl⟩
  have hmn : me.name = X.cfg.self := lookup_name hme
  obtain ⟨f1, f2, f3, _, _⟩ := hinv.self hX me hme
  -- what y does with X's own entry: nothing (quiescence)
  have hq := hq1 me (lookup_mem hme) env henv
  have hname : (withEnv (stateOfRec me) env).name = X.cfg.self := hmn
  have hnode : (aliveOfState (stateOfRec me)).node = X.cfg.self := hmn
  cases hl : lookup y.recs X.cfg.self with
  | none =>
    -- an unknown member would be added
    have hlist := C09_join_lists y (withEnv (stateOfRec me) env) env.now hal (by rw [hname]; exact hne) hv
      (by simp [hdel]) henv (by rw [hname, hl]; exact f2)
    rw [show (mergeOne y (withEnv (stateOfRec me) env) env.now).1 = y from hq, hname, listedAt, hl] at hlist
    cases hlist
  | some r =>
    rw [receive_state_alive _ env hal] at hq
    have hr : r ∈ y.recs := lookup_mem hl
    have hrn : r.name = X.cfg.self := lookup_name hl
    obtain ⟨hle, haddr, _⟩ := accusation_facts hinv hX hy hme hr hrn hne
    have hrg' := hinv.recG hy hr (by rw [hrn]; exact hne)
    by_cases hlt : r.inc < me.inc
    · -- an older record would be replaced
      obtain ⟨⟨r', h1, _, h3⟩, _⟩ := C05_accusation_overridden y (aliveOfState (stateOfRec me)) false false env r
        (by rw [hnode]; exact hne) (by rw [hnode]; exact hl) hv (by simp [hdel]) haddr hlt
      rw [hq, hnode, hl] at h1
      cases h1
      exact absurd (h3 : r.inc = me.inc) (Nat.ne_of_lt hlt)
    · have heq : r.inc = me.inc := Nat.le_antisymm hle (Nat.not_lt.mp hlt)
      refine ⟨r, rfl, ?_⟩
      -- the record is at X's incarnation: it cannot be an accusation, X would refute it
      have hstate : r.st = .alive := by
        cases hs : r.st with
        | alive => rfl
        | left => exact absurd ((named_iff hinv.1 hX hrn).mp (hrg'.2.2 hs)).1 (by rw [hrun]; nofun)
        | suspect | dead =>
          exfalso
          have hq' := hq2 r hr env henv
          rw [accusation_refuted hinv hX hme hal hrn (by simp [hs]) (Nat.le_of_eq heq.symm) env] at hq'
          rw [refute_eq X me r.inc (heq ▸ f1) (Nat.lt_of_le_of_lt (Nat.succ_le_succ (hinv.selfInc_le hX)) hlen)] at hq'
          exact absurd (congrArg Node.selfInc hq') (Nat.succ_ne_self _)
      refine ⟨hstate, heq, ?_⟩
      -- same incarnation: same content (ownership)
      obtain ⟨me2, hme2, _, hcont⟩ := (named_iff hinv.1 hX hrn).mp (hrg'.1 hstate).1.2.2
      cases hme.symm.trans hme2
      exact (hcont heq).1

end Swim.Cluster
