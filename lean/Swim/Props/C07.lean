import Swim.Props.C02
import Swim.Gen.Facts
/-!
# C07  Membership events are a serialized, faithful log of Members()

`listedAt n y` says whether `Members()` lists `y`. Per rule (`C07_suspect_sync`, `C07_dead_sync`, `C07_alive_sync`):
which events it emits, with what payload, and that the listing changes exactly with them. `replay` applies the join
and leave events of a log to a set of names. Every rule returns a short concrete log, so that replaying it on the
members listed before gives the members listed after is checked case by case (`Sync`), and composes.
-/
namespace Swim.Merge

def listedAt (n : Node) (y : String) : Bool :=
  match lookup n.recs y with
  | some r => !r.st.deadOrLeft
  | none => false

def isEvent : Out → Bool
  | .join .. => true | .update .. => true | .leave .. => true | _ => false

theorem listedAt_of {n : Node} {y : String} {r : Rec} (h : lookup n.recs y = some r) :
    listedAt n y = !r.st.deadOrLeft := by simp [listedAt, h]

theorem listedAt_setRec {n n' : Node} {r r' : Rec} (h : n'.recs = setRec n.recs r')
    (hr : lookup n.recs r'.name = some r) (y : String) :
    listedAt n' y = if y = r'.name then !r'.st.deadOrLeft else listedAt n y := by
  unfold listedAt
  rw [h, lookup_setRec]
  by_cases e : y = r'.name
  · subst e; simp [hr]
  · simp [e]

theorem listedAt_withStub {n : Node} {a : AliveMsg} (hl : lookup n.recs a.node = none) :
    listedAt (withStub n a) = listedAt n := by
  funext y
  by_cases hy : a.node = y
  · -- the stub is dead: as little listed as a member never heard of
    subst hy; rw [listedAt_of (lookup_withStub_self hl), listedAt, hl]; rfl
  · simp [listedAt, lookup_withStub_ne n (Ne.symm hy)]

/-- a subscriber's view: which names it believes to be members -/
def viewStep (v : String → Bool) (o : Out) : String → Bool :=
  match o with
  | .join nm _ _ _ => fun y => y == nm || v y
  | .leave nm => fun y => y != nm && v y
  | _ => v

def replay (v : String → Bool) (outs : List Out) : String → Bool := outs.foldl viewStep v

@[simp] theorem replay_nil (v : String → Bool) : replay v [] = v := rfl

@[simp] theorem replay_cons (v : String → Bool) (o : Out) (os : List Out) :
    replay v (o :: os) = replay (viewStep v o) os := rfl

theorem replay_append (v : String → Bool) (a b : List Out) : replay v (a ++ b) = replay (replay v a) b :=
  List.foldl_append

def Sync (n : Node) (r : Node × List Out) : Prop := replay (listedAt n) r.2 = listedAt r.1

theorem Sync.trans {n : Node} {r1 r2 : Node × List Out} (h1 : Sync n r1) (h2 : Sync r1.1 r2) :
    Sync n (r2.1, r1.2 ++ r2.2) := by
  rw [Sync, replay_append, h1, h2]

theorem viewStep_nonevent (v : String → Bool) (o : Out) (h : isEvent o = false) : viewStep v o = v := by
  cases o <;> first | rfl | cases h

theorem replay_nonevents (v : String → Bool) (outs : List Out) (h : ∀ o ∈ outs, isEvent o = false) :
    replay v outs = v := by
  induction outs generalizing v with
  | nil => rfl
  | cons o os ih =>
    rw [replay_cons, viewStep_nonevent v o (h o List.mem_cons_self)]
    exact ih v fun x hx => h x (List.mem_cons_of_mem _ hx)

/-- Suspect claims never touch `Members()`: no join/leave/update event, and every member is
listed afterwards iff it was listed before (a suspect member is still a member). -/
theorem C07_suspect_sync (n : Node) (s : Claim) (env : Env) :
    (∀ o ∈ (suspectNode n s env).2, isEvent o = false) ∧
    ∀ y, listedAt (suspectNode n s env).1 y = listedAt n y := by
  -- the effects are concrete lists: that none is an event is checked by evaluation
  have quiet : ∀ l : List Out, l.all (!isEvent ·) = true → ∀ o ∈ l, isEvent o = false := fun l h => by simpa using h
  rcases suspectNode_cases n s env with e | ⟨r, hr, _, ⟨_, _, _, e⟩ | ⟨_, hal, ⟨_, e⟩ | ⟨_, e⟩⟩⟩
    <;> rw [e] <;> refine ⟨quiet _ rfl, fun y => ?_⟩
  · rfl
  · rfl
  -- refutation and new suspicion: the record of `s.node`, alive so far (`hal`), stays alive or becomes suspect, so the
  -- member is listed before and after
  all_goals
    rw [listedAt_setRec (n := n) rfl (by simpa [lookup_name hr] using hr)]
    split
    · next hy => simp [hy, listedAt_of hr, lookup_name hr, hal, St.deadOrLeft]
    · rfl

/-- The only event a dead claim can cause is `leave` for the named member; it is emitted exactly when that member was
listed and is not any more; nobody else's listing changes. -/
theorem C07_dead_sync (n : Node) (d : Claim) (env : Env) :
    (∀ o ∈ (deadNode n d env).2, isEvent o = true → o = .leave d.node) ∧
    (∀ y, y ≠ d.node → listedAt (deadNode n d env).1 y = listedAt n y) ∧
    (listedAt (deadNode n d env).1 d.node = (listedAt n d.node && !((deadNode n d env).2.contains (.leave d.node)))) ∧
    ((deadNode n d env).2.contains (.leave d.node) = true → listedAt n d.node = true) := by
  have frame : ∀ y, y ≠ d.node → listedAt (deadNode n d env).1 y = listedAt n y := fun y hy => by
    unfold listedAt
    rw [deadNode_frame n d env y hy]
  rcases deadNode_cases n d env with ⟨_, e⟩ | ⟨r, hr, _, ⟨_, e⟩ | ⟨hd, ⟨_, _, e⟩ | ⟨_, e⟩⟩⟩ <;> rw [e] at frame ⊢
  · exact ⟨(fun _ ho => nomatch ho), frame, (Bool.and_true _).symm, fun h => nomatch h⟩
  · exact ⟨(fun _ ho => nomatch ho), frame, (Bool.and_true _).symm, fun h => nomatch h⟩
  · -- a refutation keeps the state of the local record and emits no leave
    refine ⟨fun o ho he => ?_, frame, ?_, fun h => nomatch h⟩
    · cases List.mem_singleton.mp ho
      cases he
    · rw [listedAt_setRec (n := n) rfl (by simpa [lookup_name hr] using hr)]
      simp [listedAt_of hr, lookup_name hr]
  · -- the member, listed so far (`hd`), becomes dead or left, and the leave is emitted
    refine ⟨fun o ho he => ?_, frame, ?_, fun _ => by rw [listedAt_of hr, hd]; rfl⟩
    · rcases List.mem_cons.mp ho with rfl | ho
      · cases he
      · exact List.mem_singleton.mp ho
    · rw [listedAt_setRec (n := n) rfl (by simpa [lookup_name hr] using hr)]
      simp [lookup_name hr, deadOrLeft_ite]

/-- Alive claims about other members: a join carries the address and metadata of the claim and is emitted exactly when
the member becomes listed; an update is emitted only for a member listed before and after; nobody else's listing
changes. -/
theorem C07_alive_sync (n : Node) (a : AliveMsg) (nt b : Bool) (env : Env) (hself : a.node ≠ n.cfg.self) :
    (∀ y, y ≠ a.node → listedAt (aliveNode n a nt b env).1 y = listedAt n y) ∧
    (∀ o ∈ (aliveNode n a nt b env).2, isEvent o = true →
        (o = .join a.node a.addr a.port a.md ∧ listedAt n a.node = false ∧ listedAt (aliveNode n a nt b env).1 a.node = true) ∨
        (o = .update a.node a.md ∧ listedAt n a.node = true ∧ listedAt (aliveNode n a nt b env).1 a.node = true)) ∧
    ((∀ o ∈ (aliveNode n a nt b env).2, isEvent o = false) →
        listedAt (aliveNode n a nt b env).1 a.node = listedAt n a.node) := by
  refine ⟨fun y hy => ?_, ?_⟩
  · unfold listedAt
    rw [aliveNode_frame n a nt b env y hy]
  refine aliveNode_elim (R := fun n res => a.node ≠ n.cfg.self →
    (∀ o ∈ res.2, isEvent o = true →
        (o = .join a.node a.addr a.port a.md ∧ listedAt n a.node = false ∧ listedAt res.1 a.node = true) ∨
        (o = .update a.node a.md ∧ listedAt n a.node = true ∧ listedAt res.1 a.node = true)) ∧
    ((∀ o ∈ res.2, isEvent o = false) → listedAt res.1 a.node = listedAt n a.node)) a nt b env ?_
    (fun _ _ => ⟨(fun _ ho => nomatch ho), fun _ => rfl⟩) ?_ n hself
  · intro n r hr hself
    rcases aliveNode_known_other n a nt b env r hself hr with ⟨hn, hc⟩ | ⟨_, _, e⟩
    · -- unchanged, and a conflict callback is no membership event
      refine ⟨fun o ho he => ?_, fun _ => by rw [hn]⟩
      obtain ⟨_, _, _, rfl⟩ := hc o ho
      cases he
    · -- accepted: listed afterwards; the event is a join if the held record was dead or left, else at most an update
      rw [e]
      have hpost : listedAt { n with timers := delTimer n.timers a.node, recs := setRec n.recs (acceptRec r a env) }
          a.node = true := by
        rw [listedAt_setRec (n := n) rfl (by simpa [lookup_name hr] using hr), acceptRec_name, if_pos (lookup_name hr).symm]
        rfl
      refine ⟨fun o ho he => ?_, fun hno => ?_⟩
      · rcases mem_acceptOuts ho with rfl | ⟨hdl, rfl⟩ | ⟨hdl, rfl⟩
        · cases he
        · exact .inl ⟨rfl, by rw [listedAt_of hr, hdl]; rfl, hpost⟩
        · exact .inr ⟨rfl, by rw [listedAt_of hr, hdl]; rfl, hpost⟩
      · rw [hpost, listedAt_of hr]
        cases hdl : r.st.deadOrLeft
        · rfl
        · cases hno (.join a.node a.addr a.port a.md) (by simp [acceptOuts, hdl])
  · intro n res hl _ hres hself
    rw [← listedAt_withStub hl]
    exact hres hself

theorem Sync.of_silent {n : Node} {r : Node × List Out}
    (h : (∀ o ∈ r.2, isEvent o = false) ∧ ∀ y, listedAt r.1 y = listedAt n y) : Sync n r := by
  rw [Sync, replay_nonevents _ _ h.1]
  exact funext fun y => (h.2 y).symm

theorem dead_sync (n : Node) (d : Claim) (env : Env) : Sync n (deadNode n d env) := by
  rcases deadNode_cases n d env with ⟨_, e⟩ | ⟨r, hr, _, ⟨_, e⟩ | ⟨hd, ⟨_, _, e⟩ | ⟨_, e⟩⟩⟩ <;> rw [e] <;> funext y
  · rfl
  · rfl
  · -- a refutation keeps the state of the local record: no event, same listing
    rw [listedAt_setRec (n := n) rfl (by simpa [lookup_name hr] using hr)]
    by_cases hy : y = d.node <;> simp [hy, viewStep, listedAt_of hr, lookup_name hr]
  · -- the member, listed so far (`hd`), becomes dead or left: the leave event takes it off the listing
    rw [listedAt_setRec (n := n) rfl (by simpa [lookup_name hr] using hr)]
    by_cases hy : y = d.node <;> simp [hy, viewStep, listedAt_of hr, lookup_name hr, deadOrLeft_ite]

theorem replay_accept (v : String → Bool) (a : AliveMsg) (nt : Bool) (r : Rec) :
    replay v (acceptOuts a nt r) = if r.st.deadOrLeft then fun y => y == a.node || v y else v := by
  unfold acceptOuts
  cases r.st.deadOrLeft
  · by_cases h : (r.md != a.md) = true
    · rw [if_neg Bool.false_ne_true, if_neg Bool.false_ne_true, if_pos h]; rfl
    · rw [if_neg Bool.false_ne_true, if_neg Bool.false_ne_true, if_neg h]; rfl
  · rfl

/-- `SelfOk` is needed for one case only, of a claim about the node itself: a refutation leaves the state of the local
record as it is, yet emits a join if that state is dead or left. -/
theorem alive_sync (n : Node) (a : AliveMsg) (nt b : Bool) (env : Env) (hok : a.node = n.cfg.self → SelfOk n) :
    Sync n (aliveNode n a nt b env) := by
  refine aliveNode_elim (R := fun n res => (a.node = n.cfg.self → SelfOk n) → Sync n res) a nt b env ?_
    (fun _ _ => rfl) ?_ n hok
  · intro n r hr hok
    rcases aliveNode_known n a nt b env r hr with e | ⟨_, _, _, e⟩ | ⟨_, _, _, _, e⟩ | ⟨hs, hl, _, _, e⟩ | ⟨_, _, _, e⟩
      <;> rw [e] <;> funext y
    · rfl
    · dsimp only; split <;> rfl
    · rfl
    · -- refuted: the local record keeps its state, which is alive since the node has not left: no join, same listing
      obtain ⟨me, hme, hal⟩ := hok hs
      cases (hs ▸ hr).symm.trans hme
      rw [listedAt_setRec (n := n) rfl (by simpa [lookup_name hr] using hr)]
      by_cases hy : y = a.node <;> simp [hy, viewStep, listedAt_of hr, lookup_name hr, hal hl, St.deadOrLeft]
    · -- accepted: the member is listed afterwards; it was not so far exactly when a join is reported
      rw [replay_accept, listedAt_setRec (n := n) rfl (by simpa [lookup_name hr] using hr), acceptRec_name,
        lookup_name hr, acceptRec_st, show St.alive.deadOrLeft = false from rfl]
      by_cases hy : y = a.node
      · subst hy
        cases hdl : r.st.deadOrLeft <;> simp [listedAt_of hr, hdl]
      · cases hdl : r.st.deadOrLeft <;> simp [hy]
  · intro n res hl _ hres h
    rw [Sync, ← listedAt_withStub hl]
    exact hres fun e => (h e).withStub a

/-- what the event log relies on: unique names (for the reaper, `reap_sync`) and the local record alive unless left
(for a refutation, `alive_sync`) -/
def LogInv (n : Node) : Prop := Uniq n ∧ SelfOk n

theorem step_logInv (n : Node) (op : Op) (h : LogInv n) : LogInv (step n op).1 :=
  ⟨step_uniq n op h.1, C02_step_selfOk n op h.2⟩

theorem reap_sync (n : Node) (hu : Uniq n) : Sync n (reap n, []) := by
  funext y
  simp only [replay_nil, listedAt, reap]
  rw [lookup_filter_uniq hu]
  cases lookup n.recs y with
  | none => rfl
  | some r =>
    -- a record the reaper drops is dead or left
    rw [Option.filter_some]
    by_cases hp : (!(r.st.deadOrLeft && r.changed == none) || r.name == n.cfg.self) = true
    · rw [if_pos hp]
    · rw [if_neg hp]
      cases hd : r.st.deadOrLeft <;> simp [hd] at hp ⊢

theorem age_sync (n : Node) (name : String) : Sync n (ageRec n name, []) := by
  funext y
  simp only [replay_nil, listedAt]
  rw [lookup_ageRec]
  cases lookup n.recs y <;> rfl

theorem step_sync (n : Node) (op : Op) (h : LogInv n) : Sync n (step n op) := by
  cases op with
  | alive a b env => exact alive_sync n a false b env fun _ => h.2
  | suspect c env => exact .of_silent (C07_suspect_sync n c env)
  | dead c env => exact dead_sync n c env
  | merge rs now =>
    show Sync n (mergeState n rs now)
    induction rs generalizing n with
    | nil => rfl
    | cons r rs ih =>
      rw [mergeState_cons]
      refine Sync.trans ?_ (ih _ ⟨mergeOne_inv alive_uniq suspect_uniq dead_uniq n r now h.1,
        C02_mergeOne_selfOk n r now h.2⟩)
      rw [mergeOne_eq]
      split
      · exact alive_sync _ _ _ _ _ fun _ => h.2
      · exact dead_sync ..
      · exact .of_silent (C07_suspect_sync ..)
  | fire node ca env =>
    show Sync n (timerFire n node ca env)
    rcases timerFire_cases n node ca env with ⟨_, e⟩ | ⟨_, _, _, _, e⟩ <;> rw [e]
    · rfl
    · exact dead_sync ..
  | reap => exact reap_sync n h.1
  | update a p m v env => exact alive_sync { n with selfInc := (n.selfInc + 1) % u32 } _ true true env fun _ => h.2
  | leave env =>
    show Sync n (leave n env)
    rcases leave_cases n env with ⟨_, e⟩ | ⟨_, e⟩ | ⟨_, _, _, e⟩ <;> rw [e]
    · rfl
    · rfl
    · exact dead_sync { n with hasLeft := true } _ env
  | age name => exact age_sync n name

/-- For every operation of the model, on a node satisfying the invariant (unique names, local record alive unless
left): replaying the step's events on the set of listed members before the step gives exactly the set of listed
members after it, and the invariant is preserved. -/
theorem C07_step_sync (n : Node) (op : Op) (h : LogInv n) : Sync n (step n op) ∧ LogInv (step n op).1 :=
  ⟨step_sync n op h, step_logInv n op h⟩

/-- Over every sequence of operations - claims by every path, merges, timer expiries, reaping passes, UpdateNode,
Leave - replaying the whole event log on the initially listed set yields exactly the set listed at the end (hence at
every intermediate moment: apply the theorem to each prefix), so the listed set never changes without its event.
`replay` takes a repeated join or leave as a no-op: the shape of the log (join, updates, leave) is not claimed. -/
theorem C07_history (n : Node) (ops : List Op) (h : LogInv n) :
    let r := ops.foldl (fun (acc : Node × List Out) op => ((step acc.1 op).1, acc.2 ++ (step acc.1 op).2)) (n, [])
    (∀ y, replay (listedAt n) r.2 y = listedAt r.1 y) ∧ LogInv r.1 := by
  suffices hh : ∀ acc : Node × List Out, Sync n acc → LogInv acc.1 →
      Sync n (ops.foldl (fun (acc : Node × List Out) op => ((step acc.1 op).1, acc.2 ++ (step acc.1 op).2)) acc) ∧
      LogInv (ops.foldl (fun (acc : Node × List Out) op => ((step acc.1 op).1, acc.2 ++ (step acc.1 op).2)) acc).1 from
    (hh (n, []) rfl h).imp_left fun hs y => congrFun hs y
  induction ops with
  | nil => exact fun acc hs ha => ⟨hs, ha⟩
  | cons op ops ih => exact fun acc hs ha => ih _ (hs.trans (step_sync acc.1 op ha)) (step_logInv acc.1 op ha)

/-- Callbacks are serialised. In the facts regenerated from the source (`Gen.notifySites`) every call of a membership
event / conflict / alive delegate is made from `aliveNode` or `deadNode`, which both begin with
`m.nodeLock.Lock(); defer m.nodeLock.Unlock()` ("locked"): no two callbacks overlap and none runs outside the critical
section that changes `Members()`. (The merge delegate is a veto hook, called before any state change.) -/
theorem C07_events_only_under_lock :
    Gen.notifySites.all (fun s =>
      (s.2.1 == "NotifyMerge" && s.1 == "Memberlist.mergeRemoteState") ||
      ((s.1 == "Memberlist.aliveNode" || s.1 == "Memberlist.deadNode") && s.2.2 == "locked")) = true := by
  simp [Gen.notifySites]

/-- the event delegate is called from exactly these places -/
theorem C07_event_sites :
    (Gen.notifySites.filter (fun s => s.2.1 == "NotifyJoin" || s.2.1 == "NotifyLeave" || s.2.1 == "NotifyUpdate")) =
      [("Memberlist.aliveNode", "NotifyJoin", "locked"), ("Memberlist.aliveNode", "NotifyUpdate", "locked"),
       ("Memberlist.deadNode", "NotifyLeave", "locked")] := by
  simp [Gen.notifySites]

end Swim.Merge
