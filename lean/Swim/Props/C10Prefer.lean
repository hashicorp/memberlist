import Swim.Props.C10
/-!
# C10: the order of a retrieval - less transmitted first, over the whole walk

`C10_pick_is_least` and `C10_advance_only_if_exhausted` speak about one hand-out and one tier
change. Here the whole walk of `GetBroadcasts` is covered: at the moment any item is handed out,
no item with fewer transmissions that would still fit is waiting in the queue, the item is the
`Less`-least of its tier among those that fit, and the handed-out list is ordered by transmissions.
-/
namespace Swim.Queue

/-- the walk with a record of every hand-out: (state before, tier, item) -/
def getTrace (overhead limit tl : Int) : Nat → Nat → Nat → GetSt → List (GetSt × Nat × Item)
  | 0, _, _, _ => []
  | fuel + 1, t, maxT, s =>
    if t > maxT then []
    else if limit - s.used - overhead ≤ 0 then []
    else
      match pickMin (cands s t (limit - s.used - overhead)) with
      | none => getTrace overhead limit tl fuel (t + 1) maxT s
      | some k => (s, t, k) :: getTrace overhead limit tl fuel t maxT (pickStep overhead tl s k)

theorem getTrace_out (o l tl : Int) (fuel t maxT : Nat) (s : GetSt) :
    (getLoop o l tl fuel t maxT s).out = s.out ++ (getTrace o l tl fuel t maxT s).map (·.2.2) := by
  fun_induction getTrace o l tl fuel t maxT s with
  | case1 | case2 | case3 => simp [getLoop, *]
  | case4 _ _ _ _ h1 h2 hp ih => simp only [getLoop, h1, h2, hp, ↓reduceIte, ih]
  | case5 _ _ _ _ h1 h2 k hp ih =>
    simp only [getLoop, h1, h2, hp, ↓reduceIte, ih, pickStep_out, List.map_cons, List.append_assoc,
      List.singleton_append]

/-- no item below tier `t` that still fits is waiting -/
def Passed (o l : Int) (t : Nat) (s : GetSt) : Prop :=
  ∀ x ∈ s.items, x.tx < t → ¬ (x.len : Int) ≤ l - s.used - o

/-- For every hand-out `(s, t, k)` of the walk (overhead `o` not negative) started in a state where nothing below the
starting tier is waiting:
`k` is the `Less`-least item of tier `t` that fits into the space left, and no item with fewer transmissions that
fits is waiting. -/
theorem C10_trace_prefers (o l tl : Int) (ho : 0 ≤ o) (fuel t maxT : Nat) (s : GetSt) (hP : Passed o l t s) :
    ∀ e ∈ getTrace o l tl fuel t maxT s,
      pickMin (cands e.1 e.2.1 (l - e.1.used - o)) = some e.2.2 ∧ Passed o l e.2.1 e.1 := by
  fun_induction getTrace o l tl fuel t maxT s with
  | case1 | case2 | case3 => simp
  | case4 _ t _ s _ _ hp ih =>
    -- the tier is exhausted: nothing of it fits, so nothing below the next tier does
    refine ih fun x hx hlt => ?_
    by_cases e1 : x.tx = t
    · exact C10_advance_only_if_exhausted hp x hx e1
    · exact hP x hx (Nat.lt_of_le_of_ne (Nat.le_of_lt_succ hlt) e1)
  | case5 _ t _ s _ _ k hp ih =>
    intro e he
    rcases List.mem_cons.mp he with rfl | he
    · exact ⟨hp, hP⟩
    · -- less room and fewer items: what did not fit before does not fit now
      refine ih (fun x hx hlt => ?_) e he
      rw [pickStep_items] at hx
      have := hP x ((removeId_sublist _ _).subset hx) hlt
      rw [pickStep_used]
      omega

theorem minTx_le (items : List Item) : ∀ x ∈ items, minTx items ≤ x.tx := by
  intro x hx
  rw [minTx, List.foldl_min]
  exact Nat.le_trans (Nat.min_le_right _ _) (List.min?_getD_le_of_mem (List.mem_map_of_mem hx))

/-- In `GetBroadcasts` on any queue, with an overhead that is not negative: at the moment an item is handed out it is the
`Less`-least (most bytes, then newest) item of its transmission count that fits into the space left, and every queued
item with fewer transmissions does not fit any more. -/
theorem C10_get_prefers (q : Q) (o l tl : Int) (ho : 0 ≤ o) :
    let s0 : GetSt := { items := q.items, used := 0, out := [], reins := [], done := [] }
    let tr := getTrace o l tl (q.items.length + (maxTx q.items - minTx q.items) + 2) (minTx q.items) (maxTx q.items) s0
    (getRun q o l tl).out = tr.map (·.2.2) ∧
    ∀ e ∈ tr, pickMin (cands e.1 e.2.1 (l - e.1.used - o)) = some e.2.2 ∧
      ∀ x ∈ e.1.items, x.tx < e.2.2.tx → ¬ (x.len : Int) ≤ l - e.1.used - o := by
  intro s0 tr
  refine ⟨by simpa [getRun, s0] using getTrace_out o l tl _ (minTx q.items) (maxTx q.items) s0, fun e he => ?_⟩
  have hP0 : Passed o l (minTx q.items) s0 := fun x hx hlt => absurd hlt (Nat.not_lt_of_le (minTx_le q.items x hx))
  obtain ⟨h1, h2⟩ := C10_trace_prefers o l tl ho _ _ _ s0 hP0 e he
  exact ⟨h1, fun x hx hlt => h2 x hx ((pickMin_cands h1).2.1 ▸ hlt)⟩

/-- the handed-out list is ordered by transmission count -/
theorem C10_out_sorted (o l tl : Int) : ∀ fuel t maxT s,
    (∀ k ∈ s.out, k.tx ≤ t) → (s.out.map (·.tx)).Pairwise (· ≤ ·) →
    ((getLoop o l tl fuel t maxT s).out.map (·.tx)).Pairwise (· ≤ ·) := by
  intro fuel t maxT s hb hs
  fun_induction getLoop o l tl fuel t maxT s with
  | case1 | case2 | case3 => exact hs
  | case4 _ _ _ _ _ _ _ ih => exact ih (fun k hk => Nat.le_succ_of_le (hb k hk)) hs
  | case5 _ t _ s _ _ k hp ih =>
    have hkt := (pickMin_cands hp).2.1
    refine ih (fun k' hk' => ?_) ?_
    · rcases List.mem_append.mp (pickStep_out .. ▸ hk') with h | h
      · exact hb k' h
      · exact Nat.le_of_eq (List.mem_singleton.mp h ▸ hkt)
    · rw [pickStep_out, List.map_append, List.pairwise_append]
      refine ⟨hs, by simp, fun a ha b hb' => ?_⟩
      obtain ⟨k', hk', rfl⟩ := List.mem_map.mp ha
      cases List.mem_singleton.mp hb'
      exact Nat.le_trans (hb k' hk') (Nat.le_of_eq hkt.symm)

end Swim.Queue
