import Swim.Gen.Facts
import Swim.Model.Merge
import Swim.Model.Lifecycle
/-!
# C20  Lifecycle safety: Leave/Shutdown and the query API in any order and interleaving
Logic part: a sequential model of the lifecycle stages and the outcome of each public call,
plus structural facts regenerated from the source. Data races and deadlocks among real
goroutines are observed by the simulator (virtual time, goroutine accounting), not proved.
-/
namespace Swim.Lifecycle

theorem next_selfListed (s : Stage) (c : Call) : (next s c).selfListed = s.selfListed := by
  unfold next; split <;> rfl

theorem age_selfListed (s : Stage) : (age s).selfListed = s.selfListed := by
  cases s <;> rfl

/-- the whole stage table, read row by row: no call blocks, and the only undocumented panic is `LocalNode` on a
node that is not a member of itself -/
theorem outcome_table (s : Stage) (c : Call) :
    outcome s c ≠ .BLOCKS ∧ (outcome s c = .PANIC ↔ c = .localNode ∧ s.selfListed = false) := by
  unfold outcome; split <;> simp_all [Stage.selfListed]

/-- Partial (stages in which the node is a member of itself, i.e. its own record was admitted at creation): over every
sequence of public calls and ageing steps, no call's outcome is PANIC or BLOCKS (the documented Leave-after-Shutdown
panic is an outcome of its own, `documentedPanic`).
The full statement (every stage) is false on the current code: see `C20_api_total_fails_when_self_denied`. -/
theorem C20_api_total_partial (calls : List (Option Call)) (s : Stage) (hs : s.selfListed = true) :
    ∀ c ∈ (calls.foldl (fun (acc : Stage × List Outcome) oc => match oc with
        | none => (age acc.1, acc.2)
        | some c => (next acc.1 c, acc.2 ++ [outcome acc.1 c])) (s, [])).2,
      c ≠ .PANIC ∧ c ≠ .BLOCKS := by
  refine (List.foldlRecOn
    (motive := fun (acc : Stage × List Outcome) => acc.1.selfListed = true ∧ ∀ c ∈ acc.2, c ≠ .PANIC ∧ c ≠ .BLOCKS)
    calls _ ⟨hs, fun _ h => absurd h List.not_mem_nil⟩ ?_).2
  rintro acc ⟨hl, h⟩ (_ | c) _
  · exact ⟨(age_selfListed _).trans hl, h⟩
  · have t := outcome_table acc.1 c
    exact ⟨(next_selfListed _ _).trans hl, List.forall_mem_append.mpr ⟨h, List.forall_mem_singleton.mpr
      ⟨fun hp => Bool.noConfusion (hl.symm.trans (t.2.mp hp).2), t.1⟩⟩⟩

/-- the premise is met by the stage every simulator run starts in -/
example : Stage.joined.selfListed = true := rfl

/-- The full statement fails (known finding C20-selfdenied-localnode): at the stage reached by `Create` with a
configuration that refuses the node's own address, `LocalNode` panics; the stage table is compared with the real calls
on every run (`denied:LocalNode=PANIC…`). -/
theorem C20_api_total_fails_when_self_denied :
    ∃ s c, outcome s c = .PANIC ∧ s.selfListed = false := ⟨.denied, .localNode, rfl, rfl⟩

/-- every other call is total at the self-denied stages as well (fixed code, known_findings `fixed:`
C20 c3262bb Leave, 784c1b7 UpdateNode) -/
theorem C20_self_denied_others_total (s : Stage) (c : Call) (hc : c ≠ .localNode) :
    outcome s c ≠ .PANIC ∧ outcome s c ≠ .BLOCKS :=
  ⟨fun hp => hc ((outcome_table s c).2.mp hp).1, (outcome_table s c).1⟩

/-- In the stage model a second `Shutdown` changes nothing and returns ok, and so does a second `Leave` of a joined
node. -/
theorem C20_idempotent (s : Stage) :
    next (next s .shutdownC) .shutdownC = next s .shutdownC ∧ outcome (next s .shutdownC) .shutdownC = .ok ∧
    (s = .joined → outcome (next s .leave) .leave = .ok ∧ next (next s .leave) .leave = next s .leave) := by
  cases s <;> decide

/-- Regenerated from the source: in `Memberlist.Shutdown` the transport is shut down before the shutdown flag is stored
and before the shutdown channel is closed and the tickers are stopped, after taking `shutdownLock`. -/
theorem C20_shutdown_closes_transport_first :
    Gen.shutdownCalls = ["m.shutdownLock.Lock", "m.shutdownLock.Unlock", "m.hasShutdown", "m.transport.Shutdown",
      "m.logger.Printf", "m.shutdown.Store", "close", "m.deschedule"] := rfl

/-- Regenerated from the source: every endless for/select loop of the package has a case receiving from the shutdown
channel (or the ticker stop channel closed by `deschedule`). -/
theorem C20_goroutines_select_on_shutdown :
    Gen.loopSites.all (fun s => s.2 == "selects-shutdown") = true ∧
    (Gen.loopSites.map (·.1)) = ["Memberlist.checkBroadcastQueueDepth", "Memberlist.packetHandler", "Memberlist.packetListen",
      "Memberlist.pushPullTrigger", "Memberlist.streamListen", "Memberlist.triggerFunc"] := by
  simp [Gen.loopSites]

/-- the goroutines the package starts (regenerated from the source): a new `go` statement shows up here -/
theorem C20_go_sites :
    Gen.goSites = [("Memberlist.handleIndirectPing", "func-literal"), ("Memberlist.probeNode", "func-literal"),
      ("Memberlist.schedule", "m.pushPullTrigger"), ("Memberlist.schedule", "m.triggerFunc"),
      ("Memberlist.schedule", "m.triggerFunc"), ("Memberlist.streamListen", "m.handleConn"),
      ("NewNetTransport", "t.tcpListen"), ("NewNetTransport", "t.udpListen"),
      ("newMemberlist", "m.checkBroadcastQueueDepth"), ("newMemberlist", "m.packetHandler"),
      ("newMemberlist", "m.packetListen"), ("newMemberlist", "m.streamListen"), ("suspicion.Confirm", "s.timeoutFn")] :=
  rfl

/-- Lock order (regenerated from the source): the broadcast queue calls its cluster-size callback while holding the
queue mutex; membership updates take the node lock first and the queue mutex second. The callback therefore must not
take the node lock: it reads the lock-free estimate and nothing else. -/
theorem C20_numNodes_callback_lock_free : Gen.numNodesCallbackCalls = ["m.estNumNodes"] := rfl

end Swim.Lifecycle

namespace Swim.Merge

/-- The own record is never reaped (fixed code, known_findings `fixed:` C20 361d109): whatever the state of the local
record, `resetNodes` keeps it, so LocalNode / UpdateNode / Leave always find it. -/
theorem C20_reap_keeps_self (n : Node) (me : Rec) (h : me ∈ n.recs) (hname : me.name = n.cfg.self) :
    me ∈ (reap n).recs := by
  simp only [reap, List.mem_filter, h, true_and]
  simp [hname]

end Swim.Merge
