import Swim.Lemmas.Rules
/-!
# C08  Graceful leave is final; a member's name and address cannot be hijacked
-/
namespace Swim.Merge

/-- An alive claim that names an existing member which is alive, suspect, or dead but not past the reclaim time, from a
different address, leaves the node state untouched; a conflict callback is the only possible effect. -/
theorem C08_conflict_keeps_addr (n : Node) (a : AliveMsg) (nt b : Bool) (env : Env) (r : Rec)
    (hself : a.node ≠ n.cfg.self) (hr : lookup n.recs a.node = some r)
    (hdiff : r.addr ≠ a.addr ∨ r.port ≠ a.port) (hnr : reclaimable n r = false) :
    (aliveNode n a nt b env).1 = n ∧
    ∀ o ∈ (aliveNode n a nt b env).2, ∃ nm ad p, o = Out.conflict nm ad p := by
  refine aliveNode_other_noop n a nt b env r hself hr ?_ (.inr hdiff)
  rintro ⟨r', hr', _, _, hrec⟩
  cases hr.symm.trans hr'
  rw [hnr] at hrec; cases hrec

/-- the conflict callback does fire when the claim comes from a different address than the holder's, the holder is not
reclaimable, the claim passes the filters, its address is admitted and a conflict delegate is configured -/
theorem C08_conflict_reported (n : Node) (a : AliveMsg) (nt b : Bool) (env : Env) (r : Rec)
    (hr : lookup n.recs a.node = some r)
    (hnl : (n.hasLeft && a.node == n.cfg.self) = false) (hv : vsnBad a.vsn = false)
    (hdel : (n.cfg.hasAliveDelegate && (a.vsn.length < 6 || !env.delegateOk)) = false)
    (hdiff : (r.addr != a.addr || r.port != a.port) = true) (hip : env.ipAllowed = true)
    (hnr : reclaimable n r = false) (hcd : n.cfg.hasConflictDelegate = true) :
    aliveNode n a nt b env = (n, [.conflict a.node a.addr a.port]) := by
  rw [aliveNode_conflict n a nt b env r hr (dropped_eq_false_iff.mpr ⟨hnl, hv, hdel⟩) (by simpa using hdiff) hip hnr, if_pos hcd]

/-- A name can be taken over from a new address immediately after a
graceful leave, and after a failure only if a reclaim time is configured and has elapsed. -/
theorem C08_reclaim_rules (n : Node) (r : Rec) :
    reclaimable n r = true ↔ (r.st = .left ∨ (r.st = .dead ∧ n.cfg.reclaim = true ∧ r.changed = none)) := by
  unfold reclaimable
  cases r.st <;> simp

/-- A left (or reclaimable dead) holder is replaced by an admitted claim from
a new address, whatever its incarnation: the member is alive at the claimed address afterwards. -/
theorem C08_name_reusable (n : Node) (a : AliveMsg) (nt b : Bool) (env : Env) (r : Rec)
    (hself : a.node ≠ n.cfg.self) (hr : lookup n.recs a.node = some r)
    (hv : vsnBad a.vsn = false)
    (hdel : (n.cfg.hasAliveDelegate && (a.vsn.length < 6 || !env.delegateOk)) = false)
    (hdiff : (r.addr != a.addr || r.port != a.port) = true) (hip : env.ipAllowed = true)
    (hrec : reclaimable n r = true) :
    ∃ r', lookup (aliveNode n a nt b env).1.recs a.node = some r' ∧ r'.st = .alive ∧
      r'.addr = a.addr ∧ r'.port = a.port ∧ r'.inc = a.inc := by
  rw [aliveNode_takeover n a nt b env r hself hr (dropped_eq_false hself hv hdel) ⟨r, hr, by simpa using hdiff, hip, hrec⟩]
  exact ⟨acceptRec r a env, lookup_setRec_of_some hr rfl, rfl, rfl, rfl, rfl⟩

/-- A self-signed dead claim (a departure) about a member the
node still lists, at an incarnation at least the held one, records it as left, not failed. -/
theorem C08_departure_recorded_left (n : Node) (d : Claim) (env : Env) (r : Rec)
    (hself : d.node ≠ n.cfg.self) (hr : lookup n.recs d.node = some r)
    (hfrom : d.frm = d.node) (hinc : r.inc ≤ d.inc) (hlisted : r.st.deadOrLeft = false) :
    ∃ r', lookup (deadNode n d env).1.recs d.node = some r' ∧ r'.st = .left ∧ r'.inc = d.inc ∧
      Out.leave d.node ∈ (deadNode n d env).2 := by
  rw [deadNode_recorded n d env r (fun e => absurd e hself) hr hlisted hinc]
  exact ⟨{ r with inc := d.inc, st := .left, changed := some env.now }, by simp [lookup_name hr, hr, hfrom], rfl, rfl,
    by simp⟩

/-- While the tombstone is held, an alive claim from the same
address that is no newer than the departure changes nothing. -/
theorem C08_no_resurrection (n : Node) (a : AliveMsg) (nt b : Bool) (env : Env) (r : Rec)
    (hself : a.node ≠ n.cfg.self) (hr : lookup n.recs a.node = some r) (_hleft : r.st = .left)
    (hsame : r.addr = a.addr ∧ r.port = a.port) (hold : a.inc ≤ r.inc) :
    (aliveNode n a nt b env).1 = n :=
  aliveNode_stale_same_address n a nt b env r hself hr hsame hold

/-- `Leave` on a running node records the node itself as
left at its current incarnation and queues the self-signed dead broadcast with the leave
notification attached. -/
theorem C08_leave_marks_left (n : Node) (env : Env) (me : Rec)
    (hme : lookup n.recs n.cfg.self = some me) (hnl : n.hasLeft = false) (halive : me.st = .alive) :
    (leave n env).1.hasLeft = true ∧
    (∃ me', lookup (leave n env).1.recs n.cfg.self = some me' ∧ me'.st = .left ∧ me'.inc = me.inc) ∧
    Out.bcast n.cfg.self .dead n.cfg.self me.inc n.cfg.self true ∈ (leave n env).2 ∧
    Out.leave n.cfg.self ∈ (leave n env).2 := by
  -- the flag is set first, so the self-signed dead claim is recorded, not refuted
  have e := deadNode_recorded { n with hasLeft := true } { inc := me.inc, node := n.cfg.self, frm := n.cfg.self } env me
    (fun _ => rfl) hme (by rw [halive]; rfl) (Nat.le_refl _)
  rw [beq_self_eq_true, if_pos rfl] at e
  rw [leave_running n env me hme hnl, e]
  refine ⟨rfl, ⟨{ me with st := .left, changed := some env.now }, ?_, rfl, rfl⟩, List.mem_cons_self,
    List.mem_cons_of_mem _ List.mem_cons_self⟩
  rw [lookup_setRec, if_pos (lookup_name hme).symm, hme]; rfl

/-- Once it has left, the node ignores every alive claim
about itself - including its own queued or replayed ones. -/
theorem C08_leaver_ignores_own_alive (n : Node) (a : AliveMsg) (nt b : Bool) (env : Env)
    (hl : n.hasLeft = true) (hself : a.node = n.cfg.self) : aliveNode n a nt b env = (n, []) :=
  aliveNode_dropped n a nt b env (dropped_of_left env hl hself)

end Swim.Merge
