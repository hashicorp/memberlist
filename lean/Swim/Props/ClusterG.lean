import Swim.Props.Cluster
/-!
# The general invariant of the cluster model, for arbitrary histories
No health hypothesis: probes may fail, suspicions start, time out and are refuted. What stays true (`GInv`): nobody
holds or sends a claim about `x` with an incarnation above the one `x` itself has reached, every address on record for
`x` is `x`'s own, an alive claim at the subject's current incarnation carries its current metadata and versions (older
ones are only bounded), and "left" is only recorded for members that called Leave. The cluster-level theorems for C02,
C05, C08 and C09 read their statements off it (`ginv_reachable`); C04's health invariant and C08's tombstones are carried
along it (`grun_ind`).
-/
namespace Swim.Cluster
open Swim.Merge

/-- `x` itself has reached incarnation `i`: what bounds every claim about `x` (C02) -/
def Known (w : World) (x : String) (i : Nat) : Prop :=
  ∃ X ∈ w.nodes, X.cfg.self = x ∧ ∃ me, selfRec X = some me ∧ i ≤ me.inc

/-- the same, and `addr:port` is `x`'s own address: the address condition of C05 and C09, no takeover in C08 -/
def KnownAt (w : World) (x : String) (i addr port : Nat) : Prop :=
  ∃ X ∈ w.nodes, X.cfg.self = x ∧ ∃ me, selfRec X = some me ∧ i ≤ me.inc ∧ me.addr = addr ∧ me.port = port

/-- an alive claim as a real node sends it (`GoodAlive`), from its subject's own address -/
def GoodAliveG (w : World) (a : AliveMsg) : Prop := GoodAlive w a ∧ KnownAt w a.node a.inc a.addr a.port

/-- what a node may hold about another member: an alive record is a good alive claim; whatever the state, the member
has reached that incarnation and the address is its own; a left record means the member called Leave -/
def RecG (w : World) (r : Rec) : Prop :=
  (r.st = .alive → GoodAliveG w (aliveOfRec r)) ∧ KnownAt w r.name r.inc r.addr r.port ∧
  (r.st = .left → Departed w r.name r.inc)

/-- what may be in flight: the same, claim by claim (a dead claim signed by its subject is a departure) -/
def GBenign (w : World) : Msg → Prop
  | .alive a => GoodAliveG w a
  | .suspect c => Known w c.node c.inc
  | .dead c => Known w c.node c.inc ∧ (c.frm = c.node → Departed w c.node c.inc)
  | .state s => KnownAt w s.name s.inc s.addr s.port ∧ (s.st = .alive → GoodAliveG w (aliveOfState s)) ∧
      (s.st = .left → Departed w s.name s.inc)

/-- What a node holds about itself. In order: the record never outruns the counter, so a refutation (the counter's
successor) is newer than it; incarnation positive and six version bytes, so claims built from it are `GoodAlive`;
a running node holds itself alive; it never suspects itself, so a timer that fires is about somebody else; once it
has left it does not hold itself alive again. -/
def SelfFactsG (n : Node) : Prop :=
  ∀ me, selfRec n = some me → me.inc ≤ n.selfInc ∧ 0 < me.inc ∧ me.vsn.length = 6 ∧
    (me.st = .alive ∨ n.hasLeft = true) ∧ me.st ≠ .suspect ∧ (n.hasLeft = true → me.st ≠ .alive)

/-- a node refutes a suspicion about itself instead of timing it, so `suspectNode_self` always applies -/
def NoSelfTimer (n : Node) : Prop := ∀ t ∈ n.timers, t.node ≠ n.cfg.self

/-- the invariant at one node; `k` bounds its incarnation counter -/
def NodeG (w : World) (k : Nat) (n : Node) : Prop :=
  Uniq n ∧ n.selfInc ≤ k ∧ SelfFactsG n ∧ NoSelfTimer n ∧ (∀ r ∈ n.recs, r.name ≠ n.cfg.self → RecG w r)

/-- The general invariant: distinct node names, `NodeG` at every node, only benign claims in flight. `k` bounds every
incarnation counter and grows by one per step, which keeps the counters away from 2^32 in histories shorter than that. -/
def GInv (w : World) (k : Nat) : Prop :=
  (w.nodes.map (·.cfg.self)).Nodup ∧ (∀ n ∈ w.nodes, NodeG w k n) ∧ (∀ m ∈ w.pool, GBenign w m)

section
variable {w : World} {k : Nat} (h : GInv w k) {n : Node} (hn : n ∈ w.nodes)
include h hn

theorem GInv.uniq : Uniq n := (h.2.1 n hn).1

theorem GInv.selfInc_le : n.selfInc ≤ k := (h.2.1 n hn).2.1

theorem GInv.self : SelfFactsG n := (h.2.1 n hn).2.2.1

theorem GInv.noSelfTimer : NoSelfTimer n := (h.2.1 n hn).2.2.2.1

theorem GInv.recG {r : Rec} (hr : r ∈ n.recs) (hne : r.name ≠ n.cfg.self) : RecG w r := (h.2.1 n hn).2.2.2.2 r hr hne

end

theorem Known.ext {w w' : World} (h : Ext w w') {x : String} {i : Nat} (hk : Known w x i) : Known w' x i :=
  h.named (fun _ _ hm ⟨me, hme, hle⟩ =>
    let ⟨me', hme', h1, _⟩ := hm.2.2 me hme
    ⟨me', hme', Nat.le_trans hle h1⟩) hk

theorem KnownAt.ext {w w' : World} (h : Ext w w') {x : String} {i a p : Nat} (hk : KnownAt w x i a p) :
    KnownAt w' x i a p :=
  h.named (fun _ _ hm ⟨me, hme, hle, ha, hp⟩ =>
    let ⟨me', hme', h1, _, a2, p2⟩ := hm.2.2 me hme
    ⟨me', hme', Nat.le_trans hle h1, a2.trans ha, p2.trans hp⟩) hk

theorem KnownAt.known {w : World} {x : String} {i a p : Nat} (hk : KnownAt w x i a p) : Known w x i :=
  let ⟨X, hX, hname, me, hme, hle, _⟩ := hk
  ⟨X, hX, hname, me, hme, hle⟩

theorem Departed.known {w : World} {x : String} {i : Nat} (hd : Departed w x i) : Known w x i :=
  let ⟨X, hX, hname, _, h⟩ := hd
  ⟨X, hX, hname, h⟩

theorem Departed.mono {w : World} {x : String} {i j : Nat} (hd : Departed w x i) (hj : j ≤ i) : Departed w x j :=
  let ⟨X, hX, hname, hl, me, hme, hle⟩ := hd
  ⟨X, hX, hname, hl, me, hme, Nat.le_trans hj hle⟩

theorem KnownAt.combine {w : World} (hnd : (w.nodes.map (·.cfg.self)).Nodup) {x : String} {i j a p : Nat}
    (h1 : Known w x i) (h2 : KnownAt w x j a p) : KnownAt w x i a p := by
  obtain ⟨X, hX, hn, me, hme, hle⟩ := h1
  obtain ⟨me2, hme2, _, ha, hp⟩ := (named_iff hnd hX hn.symm).mp h2
  cases hme.symm.trans hme2
  exact ⟨X, hX, hn, me, hme, hle, ha, hp⟩

theorem GoodAliveG.ext {w w' : World} (h : Ext w w') {a : AliveMsg} (hg : GoodAliveG w a) : GoodAliveG w' a :=
  ⟨hg.1.ext h, hg.2.ext h⟩

theorem RecG.ext {w w' : World} (h : Ext w w') {r : Rec} (hg : RecG w r) : RecG w' r :=
  ⟨fun e => (hg.1 e).ext h, hg.2.1.ext h, fun e => (hg.2.2 e).ext h⟩

theorem GBenign.ext {w w' : World} (h : Ext w w') {m : Msg} (hb : GBenign w m) : GBenign w' m := by
  cases m with
  | alive a => exact GoodAliveG.ext h hb
  | suspect c => exact Known.ext h hb
  | dead c => exact ⟨hb.1.ext h, fun e => (hb.2 e).ext h⟩
  | state s => exact ⟨hb.1.ext h, fun e => (hb.2.1 e).ext h, fun e => (hb.2.2 e).ext h⟩

/-- equal but for `changed`, which the invariant does not read -/
def SameG (y0 y : Rec) : Prop := aliveOfRec y0 = aliveOfRec y ∧ y0.st = y.st

theorem SameG.refl (r : Rec) : SameG r r := ⟨rfl, rfl⟩

theorem RecG.same {w : World} {y0 y : Rec} (hs : SameG y0 y) (hg : RecG w y0) : RecG w y := by
  obtain ⟨e1, e2⟩ := hs
  have en : y0.name = y.name := congrArg AliveMsg.node e1
  have ei : y0.inc = y.inc := congrArg AliveMsg.inc e1
  have ea : y0.addr = y.addr := congrArg AliveMsg.addr e1
  have ep : y0.port = y.port := congrArg AliveMsg.port e1
  refine ⟨?_, ?_, ?_⟩
  · intro h; rw [← e1]; exact hg.1 (by rw [e2]; exact h)
  · rw [← en, ← ei, ← ea, ← ep]; exact hg.2.1
  · intro h; rw [← en, ← ei]; exact hg.2.2 (by rw [e2]; exact h)

theorem NodeG.ext {w w' : World} {k k' : Nat} (h : Ext w w') (hk : k ≤ k') {n : Node} (ho : NodeG w k n) :
    NodeG w' k' n :=
  ⟨ho.1, Nat.le_trans ho.2.1 hk, ho.2.2.1, ho.2.2.2.1, fun r hr hne => (ho.2.2.2.2 r hr hne).ext h⟩

/-- One node acts. `h1` makes the step an `Ext`, which carries the other nodes and the pool over; `h2` are the clauses
about the acting node alone; `h3`, `h4`: each record it holds about another member was held before (up to `SameG`) or is
good, and each claim it sends is benign, in every later world `w'` that contains its new state. -/
theorem act_ginv (w : World) (k : Nat) (x : String) (f : Node → Node × List Out) (src : Option AliveMsg) (n : Node)
    (hinv : GInv w k) (hfind : nodeAt w x = some n)
    (h1 : OwnerMono n (f n).1)
    (h2 : Uniq (f n).1 ∧ (f n).1.selfInc ≤ k + 1 ∧ SelfFactsG (f n).1 ∧ NoSelfTimer (f n).1)
    (h3 : ∀ w', Ext w w' → (f n).1 ∈ w'.nodes → ∀ y ∈ (f n).1.recs, y.name ≠ x →
        (∃ y0 ∈ n.recs, SameG y0 y) ∨ RecG w' y)
    (h4 : ∀ w', Ext w w' → (f n).1 ∈ w'.nodes → ∀ o ∈ (f n).2, ∀ m ∈ emit (f n).1 src o, GBenign w' m) :
    GInv (act w x f src) (k + 1) := by
  obtain ⟨hnd, hnodes, hpool⟩ := hinv
  obtain ⟨hmem, hname⟩ := find_actor hfind
  have hin : (f n).1 ∈ (act w x f src).nodes := (mem_act_nodes hfind f src).mpr (Or.inl rfl)
  -- the step is an `Ext`: `h1` for the acting node, reflexivity for the others
  have hext : Ext w (act w x f src) := by
    intro k0 hk0
    by_cases e : k0.cfg.self = x
    · rw [List.eq_of_nodup_map hnd hk0 hmem (e.trans hname.symm)]; exact ⟨_, hin, h1⟩
    · exact ⟨k0, (mem_act_nodes hfind f src).mpr (Or.inr ⟨hk0, e⟩), OwnerMono.refl k0⟩
  refine ⟨by rw [act_names hfind h1.1]; exact hnd, fun n' hn' => ?_, fun m hm => ?_⟩
  · rcases (mem_act_nodes hfind f src).mp hn' with rfl | ⟨hk0, _⟩
    · refine ⟨h2.1, h2.2.1, h2.2.2.1, h2.2.2.2, fun y hy hne => ?_⟩
      have hne' : y.name ≠ x := by rwa [h1.1, hname] at hne
      rcases h3 _ hext hin y hy hne' with ⟨y0, hy0, hs⟩ | g
      · have hn0 : y0.name ≠ n.cfg.self := by
          rw [show y0.name = y.name from congrArg AliveMsg.node hs.1, hname]; exact hne'
        exact ((hnodes n hmem).2.2.2.2 y0 hy0 hn0).ext hext |>.same hs
      · exact g
    · exact (hnodes n' hk0).ext hext (Nat.le_succ k)
  · rw [act_some hfind] at hm
    rcases List.mem_append.mp hm with h | h
    · exact (hpool m h).ext hext
    · obtain ⟨o, ho, hmo⟩ := List.mem_flatMap.mp h
      exact h4 _ hext hin o ho m hmo

theorem known_self {w : World} {k : Nat} {n : Node} (hinv : GInv w k) (hmem : n ∈ w.nodes) {me : Rec}
    (hme : selfRec n = some me) {i : Nat} (h : Known w n.cfg.self i) : i ≤ me.inc := by
  obtain ⟨me2, hme2, hle⟩ := (named_iff hinv.1 hmem rfl).mp h
  cases hme.symm.trans hme2
  exact hle

theorem knownAt_self {w : World} {k : Nat} {n : Node} (hinv : GInv w k) (hmem : n ∈ w.nodes) {me : Rec}
    (hme : selfRec n = some me) {x : String} (hx : x = n.cfg.self) {i a p : Nat} (h : KnownAt w x i a p) :
    i ≤ me.inc ∧ me.addr = a ∧ me.port = p := by
  obtain ⟨me2, hme2, h⟩ := (named_iff hinv.1 hmem hx).mp h
  cases hme.symm.trans hme2
  exact h

theorem alive_of_not_gone {st : St} (h1 : st.deadOrLeft = false) (h2 : st ≠ .suspect) : st = .alive := by
  cases st <;> simp_all [St.deadOrLeft]

theorem NoSelfTimer.find_none {n : Node} (h : NoSelfTimer n) {nm : String} (e : nm = n.cfg.self) :
    n.timers.find? (·.node == nm) = none :=
  List.find?_eq_none.mpr fun t ht => by simpa [e] using h t ht

theorem own_facts {w : World} {n : Node} {R : Rec} (hin : n ∈ w.nodes) (hR : selfRec n = some R) :
    Owned w (aliveOfRec R) ∧ KnownAt w n.cfg.self R.inc R.addr R.port ∧ (n.hasLeft = true → Departed w n.cfg.self R.inc) :=
  ⟨⟨n, hin, (lookup_name hR).symm, R, hR, Nat.le_refl _, fun _ => ⟨rfl, rfl⟩⟩, ⟨n, hin, rfl, R, hR, Nat.le_refl _, rfl, rfl⟩,
    fun hl => ⟨n, hin, rfl, hl, R, hR, Nat.le_refl _⟩⟩

/-! ## One node acts
Throughout: the world satisfies the general invariant and `n` is the node called `x`. A lemma `g…_like` is about any
action `f` whose result at `n` has the stated shape, `g…_step` about one kind of cluster step, which it reduces to the
`_like` lemmas by the case lemma of its rule (`h…_like`, `h…_step` in `C04Cluster`: the same for `HInv`). -/

section Acting
variable {w : World} {k : Nat} {x : String} {n : Node} {f : Node → Node × List Out} {src : Option AliveMsg}
  (hinv : GInv w k) (hfind : nodeAt w x = some n)
include hinv hfind

theorem actor_facts : n ∈ w.nodes ∧ n.cfg.self = x ∧ NodeG w k n :=
  ⟨(find_actor hfind).1, (find_actor hfind).2, hinv.2.1 n (find_actor hfind).1⟩

/-- The acting node keeps its own record up to `g`, which changes no claim (`hg`, `hself`); the counter stays or moves
by one (`hi`); the Leave flag stays, or is set over an own record that is not alive (`hb`). Every other record it holds
afterwards is `g` of one held before or is good in every later world (`hrecs`). -/
theorem gsame_like {recs' : List Rec} {ts' : List Timer} {b : Bool} {i' nn : Nat} {outs : List Out} (g : Rec → Rec)
    (hf : f n = ({ n with recs := recs', timers := ts', selfInc := i', hasLeft := b, numNodes := nn }, outs))
    (hi : i' = n.selfInc ∨ i' = n.selfInc + 1) (hg : ∀ r, SameG r (g r))
    (hb : b = n.hasLeft ∨ b = true ∧ ∀ me, selfRec n = some me → me.st ≠ .alive)
    (hU : (recs'.map (·.name)).Nodup) (hT : ∀ t ∈ ts', t.node ≠ n.cfg.self)
    (hself : lookup recs' n.cfg.self = (lookup n.recs n.cfg.self).map g)
    (hrecs : ∀ w', Ext w w' → ∀ y ∈ recs', y.name ≠ x → (∃ y0 ∈ n.recs, y = g y0) ∨ RecG w' y)
    (h4 : ∀ w', Ext w w' → ∀ o ∈ outs, ∀ m ∈ emit (f n).1 src o, GBenign w' m) :
    GInv (act w x f src) (k + 1) := by
  obtain ⟨hmem, hname, hu, hsi, hsf, hst, hrg⟩ := actor_facts hinv hfind
  have hfields : ∀ r, (g r).inc = r.inc ∧ (g r).md = r.md ∧ (g r).vsn = r.vsn ∧ (g r).st = r.st ∧
      (g r).addr = r.addr ∧ (g r).port = r.port := fun r =>
    ⟨(congrArg AliveMsg.inc (hg r).1).symm, (congrArg AliveMsg.md (hg r).1).symm, (congrArg AliveMsg.vsn (hg r).1).symm,
      (hg r).2.symm, (congrArg AliveMsg.addr (hg r).1).symm, (congrArg AliveMsg.port (hg r).1).symm⟩
  have hsr : selfRec (f n).1 = (selfRec n).map g := by rw [hf]; exact hself
  have hbl : n.hasLeft = true → b = true := by
    rcases hb with e | ⟨e, _⟩ <;> rw [e]
    · exact id
    · exact fun _ => rfl
  have hi' : n.selfInc ≤ i' ∧ i' ≤ k + 1 := by
    rcases hi with e | e <;> rw [e]
    · exact ⟨Nat.le_refl _, Nat.le_succ_of_le hsi⟩
    · exact ⟨Nat.le_succ _, Nat.succ_le_succ hsi⟩
  apply act_ginv w k x f src n hinv hfind
  · refine ⟨by rw [hf], by rw [hf]; exact hbl, fun me hme => ?_⟩
    obtain ⟨f1, f2, f3, _, f5, f6⟩ := hfields me
    exact ⟨g me, by rw [hsr, hme]; rfl, Nat.le_of_eq f1.symm, fun _ => ⟨f2, f3⟩, f5, f6⟩
  · refine ⟨by rw [hf]; exact hU, by rw [hf]; exact hi'.2, ?_, by rw [hf]; exact hT⟩
    intro me' hme'
    rw [hsr] at hme'
    obtain ⟨me, hme, rfl⟩ := Option.map_eq_some_iff.mp hme'
    obtain ⟨s1, s2, s3, s4, s5, s6⟩ := hsf me hme
    obtain ⟨f1, _, f3, f4, _, _⟩ := hfields me
    rw [f1, f3, f4, hf]
    -- "alive unless left" and "not alive once left" of `SelfFactsG` under the new flag `b`
    have hflag : (me.st = .alive ∨ b = true) ∧ (b = true → me.st ≠ .alive) := by
      rcases hb with e | ⟨e, h⟩ <;> rw [e]
      · exact ⟨s4, s6⟩
      · exact ⟨Or.inr rfl, fun _ => h me hme⟩
    exact ⟨Nat.le_trans s1 hi'.1, s2, s3, hflag.1, s5, hflag.2⟩
  · intro w' hext _ y hy hne
    rw [hf] at hy
    exact (hrecs w' hext y hy hne).imp_left fun ⟨y0, hy0, e⟩ => ⟨y0, hy0, e ▸ hg y0⟩
  · intro w' hext _ o ho
    rw [hf] at ho
    exact h4 w' hext o ho

theorem gkeep_like {recs' : List Rec} {ts' : List Timer} {nn : Nat} {outs : List Out}
    (hf : f n = ({ n with recs := recs', timers := ts', numNodes := nn }, outs))
    (hU : (recs'.map (·.name)).Nodup) (hT : ∀ t ∈ ts', t.node ≠ n.cfg.self)
    (hself : lookup recs' n.cfg.self = lookup n.recs n.cfg.self)
    (hrecs : ∀ w', Ext w w' → ∀ y ∈ recs', y.name ≠ x → y ∈ n.recs ∨ RecG w' y)
    (h4 : ∀ w', Ext w w' → ∀ o ∈ outs, ∀ m ∈ emit (f n).1 src o, GBenign w' m) :
    GInv (act w x f src) (k + 1) :=
  gsame_like hinv hfind id hf (Or.inl rfl) SameG.refl (Or.inl rfl) hU hT (hself.trans Option.map_id'.symm)
    (fun w' hext y hy hne => (hrecs w' hext y hy hne).imp_left fun h => ⟨y, h, rfl⟩) h4

/-- The acting node replaces (or creates) its own record by `R` - a refutation, an announcement, its own departure -
and changes no other (`hrecs`). `hmono`: `R` continues the old record in the sense of `OwnerMono`; `hst`: alive and still
running, or dead/left with the Leave flag set; `hemit`: what it sends is `R` as an alive claim, or a dead claim about
itself that `R` covers. -/
theorem gown_like {recs' : List Rec} {ts' : List Timer} {i' sc nn : Nat} {b : Bool} {outs : List Out} (R : Rec)
    (hf : f n = ({ n with recs := recs', timers := ts', selfInc := i', hasLeft := b, score := sc, numNodes := nn }, outs))
    (hRn : R.name = n.cfg.self)
    (hrecs : (selfRec n).isSome ∧ recs' = setRec n.recs R ∨ selfRec n = none ∧ recs' = n.recs ++ [R])
    (hT : ∀ t ∈ ts', t ∈ n.timers)
    (hmono : ∀ me, selfRec n = some me → me.inc ≤ R.inc ∧ (me.inc = R.inc → R.md = me.md ∧ R.vsn = me.vsn) ∧
      R.addr = me.addr ∧ R.port = me.port)
    (hi : i' ≤ k + 1 ∧ R.inc ≤ i') (hpos : 0 < R.inc) (hv : R.vsn.length = 6)
    (hst : R.st = .alive ∧ b = false ∧ n.hasLeft = false ∨ R.st.deadOrLeft = true ∧ b = true)
    (hemit : lookup (f n).1.recs R.name = some R → ∀ o ∈ outs, ∀ m ∈ emit (f n).1 src o,
      R.st = .alive ∧ m = .alive (aliveOfRec R) ∨ b = true ∧ ∃ c, m = .dead c ∧ c.node = n.cfg.self ∧ c.inc ≤ R.inc) :
    GInv (act w x f src) (k + 1) := by
  obtain ⟨hmem, hname, hu, hsi, hsf, hst0, hrg⟩ := actor_facts hinv hfind
  -- the new record list: `R` is the own record, every other record was held before, names stay distinct
  obtain ⟨hR', hmem', hU⟩ : lookup recs' n.cfg.self = some R ∧ (∀ y ∈ recs', y ∈ n.recs ∨ y = R) ∧
      (recs'.map (·.name)).Nodup := by
    rw [← hRn]
    rcases hrecs with ⟨h, rfl⟩ | ⟨h, rfl⟩
    · exact ⟨lookup_setRec_self _ _ (by rw [hRn]; exact h), fun y hy => mem_setRec hy, by rw [names_setRec]; exact hu⟩
    · refine ⟨by simp [show lookup n.recs R.name = none from hRn ▸ h], fun y hy => by simpa using hy, ?_⟩
      rw [List.map_append]
      exact List.Nodup.concat hu (by show R.name ∉ _; rw [hRn]; exact lookup_none_not_mem n.recs _ h)
  have hR : selfRec (f n).1 = some R := by rw [hf]; exact hR'
  have hbl : n.hasLeft = true → b = true := by
    rcases hst with ⟨_, _, e⟩ | ⟨_, e⟩
    · rw [e]; exact fun h => nomatch h
    · exact fun _ => e
  apply act_ginv w k x f src n hinv hfind
  · exact ⟨by rw [hf], by rw [hf]; exact hbl, fun me hme => ⟨R, hR, hmono me hme⟩⟩
  · refine ⟨by rw [hf]; exact hU, by rw [hf]; exact hi.1, ?_, by rw [hf]; exact fun t ht => hst0 t (hT t ht)⟩
    intro me hme
    rw [hR] at hme; cases hme
    rw [hf]
    refine ⟨hi.2, hpos, hv, ?_⟩
    rcases hst with ⟨e1, e2, _⟩ | ⟨e1, e2⟩
    · exact ⟨Or.inl e1, by rw [e1]; exact fun h => St.noConfusion h, fun h => Bool.noConfusion (e2.symm.trans h)⟩
    · refine ⟨Or.inr e2, ?_, fun _ => ?_⟩ <;> (intro h; rw [h] at e1; cases e1)
  · intro w' _ _ y hy hne
    rw [hf] at hy
    rcases hmem' y hy with h | rfl
    · exact Or.inl ⟨y, h, SameG.refl y⟩
    · exact absurd (by rw [hRn, hname]) hne
  · intro w' hext hin o ho m hm
    -- what is sent is covered by the new own record `R`, in `w'` (`own_facts`)
    rw [hf] at ho
    obtain ⟨o1, o2, o3⟩ := own_facts hin hR
    have hc : (f n).1.cfg.self = n.cfg.self := by rw [hf]
    rw [hc] at o2 o3
    rcases hemit (by rw [hRn, ← hc]; exact hR) o ho m hm with ⟨_, rfl⟩ | ⟨hb, c, rfl, c1, c2⟩
    · exact ⟨⟨hpos, hv, o1⟩, by rw [show (aliveOfRec R).node = n.cfg.self from hRn]; exact o2⟩
    · have hd := (o3 (by rw [hf]; exact hb)).mono c2
      rw [← c1] at hd
      exact ⟨hd.known, fun _ => hd⟩

theorem gnoop_like (hf : f n = (n, [])) : GInv (act w x f src) (k + 1) :=
  gkeep_like hinv hfind hf (hinv.uniq (find_actor hfind).1) (hinv.noSelfTimer (find_actor hfind).1) rfl
    (fun _ _ _ hy _ => Or.inl hy) (fun _ _ _ ho => nomatch ho)

theorem galive_step {a : AliveMsg} {env : Env} (hg : GoodAliveG w a) :
    GInv (act w x (fun n => aliveNode n a false false env) (some a)) (k + 1) := by
  obtain ⟨hmem, _, hu, _, _, hst, _⟩ := actor_facts hinv hfind
  have hU := alive_uniq n a false false env hu
  by_cases hs : a.node = n.cfg.self
  · obtain ⟨me, hme, hle, heq⟩ := (named_iff hinv.1 hmem hs).mp hg.1.2.2
    obtain ⟨ts', outs, e, b1, b2⟩ := alive_self_sum n a false env me hs hme hle heq
    rw [e] at hU
    exact gkeep_like hinv hfind e hU (fun t ht => hst t (b1 t ht)) rfl (fun _ _ _ hy _ => Or.inl hy)
      (fun _ _ o ho m hm => by rw [(b2 o ho).1] at hm; cases hm)
  · obtain ⟨recs', ts', nn, outs, e, a1, a2, a3, a4⟩ := alive_other_sum n a false false env hs hg.1.1 hg.1.2.1
    rw [e] at hU
    refine gkeep_like hinv hfind e hU (fun t ht => hst t (a1 t ht)) a2 (fun w' hext y hy _ => ?_)
      (fun w' hext o ho m hm => by rw [(a4 o ho).1 _ m hm]; exact hg.ext hext)
    refine (a3 y hy).imp_right fun ⟨h1, h2⟩ => ?_
    have hg' := hg.ext hext
    subst h2
    exact ⟨fun _ => hg', hg'.2, fun e => by rw [h1] at e; cases e⟩

theorem grefute_like {ts' : List Timer} {me : Rec} {acc : Nat} (hk : k + 1 < u32)
    (hf : f n = refute { n with timers := ts' } me acc) (hT : ∀ t ∈ ts', t ∈ n.timers)
    (hme : selfRec n = some me) (hal : me.st = .alive) (hK : Known w n.cfg.self acc) :
    GInv (act w x f src) (k + 1) := by
  obtain ⟨hmem, _, _, hsi, hsf, _, _⟩ := actor_facts hinv hfind
  obtain ⟨f1, f2, f3, _, _, f6⟩ := hsf me hme
  have hacc := known_self hinv hmem hme hK
  have hnl : n.hasLeft = false := by
    cases h : n.hasLeft with
    | false => rfl
    | true => exact absurd hal (f6 h)
  refine gown_like hinv hfind { me with inc := n.selfInc + 1 }
    (hf.trans (refute_eq _ me acc (Nat.le_trans hacc f1) (Nat.lt_of_le_of_lt (Nat.succ_le_succ hsi) hk)))
    (show me.name = _ from lookup_name hme) (Or.inl ⟨by rw [hme]; rfl, rfl⟩) hT ?_
    ⟨Nat.succ_le_succ hsi, Nat.le_refl _⟩ (Nat.succ_pos _) f3 (Or.inl ⟨hal, hnl, hnl⟩) ?_
  · intro me0 hme0
    cases hme.symm.trans hme0
    exact ⟨Nat.le_succ_of_le f1, fun h => absurd (h ▸ f1) (Nat.not_succ_le_self _), rfl, rfl⟩
  · intro hl o ho m hm
    cases List.mem_singleton.mp ho
    rw [emit_refute _ src me.name _ _ hl] at hm
    exact Or.inl ⟨hal, List.mem_singleton.mp hm⟩

/-- `hf`: the last case of `deadNode_cases`, for a claim about the node itself -/
theorem ggone_like {ts' : List Timer} {b nt : Bool} {me : Rec} {c : Claim} {now : Nat}
    (hf : f n =
      ({ n with hasLeft := b, timers := ts', recs := setRec n.recs { me with inc := c.inc, st := if c.node == c.frm then .left else .dead, changed := some now } },
       [.bcast c.node .dead c.node c.inc c.frm nt, .leave c.node]))
    (hb : b = true) (hT : ∀ t ∈ ts', t ∈ n.timers) (hme : lookup n.recs c.node = some me) (hs : c.node = n.cfg.self)
    (hle : me.inc ≤ c.inc) (hK : Known w c.node c.inc) :
    GInv (act w x f src) (k + 1) := by
  obtain ⟨hmem, _, _, hsi, hsf, _, _⟩ := actor_facts hinv hfind
  have hme : selfRec n = some me := by rw [selfRec, ← hs]; exact hme
  obtain ⟨f1, f2, f3, _⟩ := hsf me hme
  have hle2 := known_self hinv hmem hme (hs ▸ hK)
  refine gown_like hinv hfind { me with inc := c.inc, st := if c.node == c.frm then .left else .dead, changed := some now } hf
    (show me.name = _ from lookup_name hme) (Or.inl ⟨by rw [hme]; rfl, rfl⟩) hT ?_
    ⟨Nat.le_succ_of_le hsi, Nat.le_trans hle2 f1⟩ (Nat.lt_of_lt_of_le f2 hle) f3
    (Or.inr ⟨deadOrLeft_ite _, hb⟩) ?_
  · intro me0 hme0
    cases hme.symm.trans hme0
    exact ⟨hle, fun _ => ⟨rfl, rfl⟩, rfl, rfl⟩
  · intro _ o ho m hm
    simp only [List.mem_cons, List.not_mem_nil, or_false] at ho
    rcases ho with rfl | rfl
    · exact Or.inr ⟨hb, c, List.mem_singleton.mp hm, hs, Nat.le_refl _⟩
    · cases hm

theorem gsuspect_like {c : Claim} {env : Env} (hk : k + 1 < u32)
    (hf : f n = suspectNode n c env) (hK : Known w c.node c.inc) :
    GInv (act w x f src) (k + 1) := by
  obtain ⟨_, _, hu, _, _, hst, hrg⟩ := actor_facts hinv hfind
  have hU := suspect_uniq n c env hu
  have hemit : ∀ w', Ext w w' → ∀ (n' : Node) (k' : Nat), ∀ o ∈ [Out.bcast c.node .suspect c.node c.inc c.frm false,
      .newTimer c.node k' c.frm], ∀ m ∈ emit n' src o, GBenign w' m := by
    intro w' hext n' k' o ho m hm
    simp only [List.mem_cons, List.not_mem_nil, or_false] at ho
    rcases ho with rfl | rfl
    · rw [List.mem_singleton.mp hm]; exact hK.ext hext
    · cases hm
  rcases suspectNode_cases n c env with e | ⟨me, hme, hle, ⟨t, ht, _, e⟩ | ⟨_, hal, ⟨hs, e⟩ | ⟨hs, e⟩⟩⟩
  · exact gnoop_like hinv hfind (hf.trans e)
  · -- a confirmation: the timers keep their names
    rw [e] at hU
    refine gkeep_like hinv hfind (hf.trans e) hU ?_ rfl (fun _ _ _ hy _ => Or.inl hy)
      (fun w' hext o ho => hemit w' hext _ 0 o (List.mem_cons.mpr (Or.inl (List.mem_singleton.mp ho))))
    intro t' ht'
    obtain ⟨t0, ht0, rfl⟩ := List.mem_map.mp ht'
    split
    · rw [Timer.confirm_node]; exact hst t (List.mem_of_find?_eq_some ht)
    · exact hst t0 ht0
  · -- about itself: refuted
    rw [hs] at hme hK
    exact grefute_like hinv hfind hk (hf.trans e) (fun _ h => h) hme hal hK
  · -- a new suspicion
    have hsn := lookup_name hme
    rw [e] at hU
    refine gkeep_like hinv hfind (hf.trans e) hU ?_ (lookup_setRec_ne _ _ _ (by rw [hsn]; exact fun h => hs h.symm))
      (fun w' hext y hy _ => (mem_setRec hy).imp_right ?_) (fun w' hext o ho => hemit w' hext _ _ o ho)
    · intro t' ht'
      rcases List.mem_append.mp ht' with h | h
      · exact hst t' h
      · rw [List.mem_singleton.mp h]; exact hs
    · rintro rfl
      -- the suspected record: the claim's incarnation, at the address held before
      have hk0 := (hrg me (lookup_mem hme) (by rw [hsn]; exact hs)).2.1
      rw [hsn] at hk0
      refine ⟨nofun, ?_, nofun⟩
      rw [show Rec.name _ = c.node from hsn]
      exact (KnownAt.combine hinv.1 hK hk0).ext hext

theorem gdead_like {c : Claim} {env : Env} (hk : k + 1 < u32)
    (hf : f n = deadNode n c env) (hK : Known w c.node c.inc) (hD : c.frm = c.node → Departed w c.node c.inc) :
    GInv (act w x f src) (k + 1) := by
  obtain ⟨_, _, hu, _, hsf, hst, hrg⟩ := actor_facts hinv hfind
  have hU := dead_uniq n c env hu
  rcases deadNode_cases n c env with ⟨_, e⟩ | ⟨me, hme, hle, ⟨_, e⟩ | ⟨hng, ⟨hs, _, e⟩ | ⟨hsl, e⟩⟩⟩
  · exact gnoop_like hinv hfind (hf.trans e)
  · -- held dead or left: the timer goes
    rw [e] at hU
    exact gkeep_like hinv hfind (hf.trans e) hU (fun t ht => hst t (mem_delTimer' ht)) rfl (fun _ _ _ hy _ => Or.inl hy)
      (fun _ _ _ ho => nomatch ho)
  · -- about itself, running: refuted
    rw [hs] at hme hK
    exact grefute_like hinv hfind hk (hf.trans e) (fun _ h => mem_delTimer' h) hme
      (alive_of_not_gone hng (hsf me hme).2.2.2.2.1) hK
  · -- recorded: its own departure, or another member's death or departure
    have hsn := lookup_name hme
    by_cases hs : c.node = n.cfg.self
    · exact ggone_like hinv hfind (hf.trans e) (hsl hs) (fun _ h => mem_delTimer' h) hme hs hle hK
    · rw [e] at hU
      refine gkeep_like hinv hfind (hf.trans e) hU (fun t ht => hst t (mem_delTimer' ht))
        (lookup_setRec_ne _ _ _ (by rw [hsn]; exact fun h => hs h.symm))
        (fun w' hext y hy _ => (mem_setRec hy).imp_right ?_) ?_
      · rintro rfl
        -- the record of the departed or dead member: the claim's incarnation, at the address held before
        have hk0 := (hrg me (lookup_mem hme) (by rw [hsn]; exact hs)).2.1
        rw [hsn] at hk0
        refine ⟨fun e => ?_, ?_, fun e => ?_⟩
        · dsimp only at e; split at e <;> cases e
        · rw [show Rec.name _ = c.node from hsn]
          exact (KnownAt.combine hinv.1 hK hk0).ext hext
        · rw [show Rec.name _ = c.node from hsn]
          by_cases h : c.node = c.frm
          · exact (hD h.symm).ext hext
          · rw [show Rec.st _ = if c.node == c.frm then St.left else St.dead from rfl, if_neg (by simpa using h)] at e
            cases e
      · intro w' hext o ho m hm
        simp only [List.mem_cons, List.not_mem_nil, or_false] at ho
        rcases ho with rfl | rfl
        · rw [List.mem_singleton.mp hm]
          exact ⟨hK.ext hext, fun e => (hD e).ext hext⟩
        · cases hm

theorem gfire_step {node : String} {ca : Nat} {env : Env} (hk : k + 1 < u32) :
    GInv (act w x (fun n => timerFire n node ca env) none) (k + 1) := by
  obtain ⟨_, _, _, _, hsf, _, hrg⟩ := actor_facts hinv hfind
  rcases timerFire_cases n node ca env with ⟨_, e⟩ | ⟨r, hr, hs, _, e⟩
  · exact gnoop_like hinv hfind e
  · -- a suspected record is never the node's own
    have hne : node ≠ n.cfg.self := fun h => (hsf r (show lookup _ _ = _ from h ▸ hr)).2.2.2.2.1 hs
    have hK := (hrg r (lookup_mem hr) (by rw [lookup_name hr]; exact hne)).2.1.known
    rw [lookup_name hr] at hK
    exact gdead_like hinv hfind hk e hK (fun h => absurd h.symm hne)

theorem gprobeFail_step {t : String} {env : Env} (hk : k + 1 < u32) :
    GInv (act w x (probeFail t env) none) (k + 1) := by
  rcases probeFail_cases t env n with e | ⟨r, hs, hl, e⟩
  · exact gnoop_like hinv hfind e
  · have hK := (hinv.recG (find_actor hfind).1 (lookup_mem hl) (by rw [lookup_name hl]; exact hs)).2.1.known
    rw [lookup_name hl] at hK
    exact gsuspect_like hinv hfind hk e hK

theorem greap_step : GInv (act w x (fun n => (reap n, [])) none) (k + 1) := by
  obtain ⟨_, _, hu, _, _, hst, _⟩ := actor_facts hinv hfind
  exact gkeep_like hinv hfind (show _ = (reap n, []) from rfl) (reap_uniq n hu) hst
    (lookup_filter fun r hr => by simp [lookup_name hr]) (fun _ _ y hy _ => Or.inl (List.mem_filter.mp hy).1)
    (fun _ _ _ ho => nomatch ho)

theorem gage_step {name : String} : GInv (act w x (fun n => (ageRec n name, [])) none) (k + 1) := by
  obtain ⟨_, _, hu, _, _, hst, _⟩ := actor_facts hinv hfind
  exact gsame_like hinv hfind (fun r => { r with changed := if r.name == name then none else r.changed })
    (show _ = (ageRec n name, []) from rfl) (Or.inl rfl) (fun _ => ⟨rfl, rfl⟩) (Or.inl rfl) (age_uniq n name hu) hst
    (lookup_ageRec n name _) (fun _ _ _ hy _ => Or.inl (mem_ageRec hy)) (fun _ _ _ ho => nomatch ho)

theorem gannounce_step {addr port md : Nat} {vsn : List Nat} {env : Env} (hk : k + 1 < u32) :
    GInv (act w x (announce addr port md vsn env) (some (announceSrc addr port md vsn n))) (k + 1) := by
  obtain ⟨_, _, hu, hsi, hsf, hst, _⟩ := actor_facts hinv hfind
  obtain ⟨_, _, haddr⟩ := announceSrc_facts addr port md vsn n
  rcases announce_cases n addr port md vsn env (Nat.lt_of_le_of_lt (Nat.succ_le_succ hsi) hk) (fun me hme => ⟨(hsf me hme).1, (hsf me hme).2.2.1⟩) with
    ⟨i', e, hi⟩ | ⟨hnl, R, ts', nn, outs, ⟨recs', e, hrecs⟩, ⟨r1, r2, r3, r4, r5⟩, r6, r7⟩
  · exact gsame_like hinv hfind id e hi SameG.refl (Or.inl rfl) hu hst Option.map_id'.symm
      (fun _ _ y hy _ => Or.inl ⟨y, hy, rfl⟩) (fun _ _ _ ho => nomatch ho)
  · refine gown_like hinv hfind R e r5 hrecs r6 ?_ ⟨Nat.succ_le_succ hsi, Nat.le_of_eq r3⟩ (r3 ▸ Nat.succ_pos _) r4
      (Or.inl ⟨r1, hnl, hnl⟩)
      (fun _ o ho m hm => Or.inl ⟨r1, by rw [r2]; exact (r7 o ho).1 _ m hm⟩)
    intro me hme
    have := (hsf me hme).1
    rw [← r2] at haddr
    exact ⟨r3 ▸ Nat.le_succ_of_le this, fun h => absurd ((h.trans r3) ▸ this) (Nat.not_succ_le_self _),
      (haddr me hme).1.symm, (haddr me hme).2.symm⟩

theorem gleave_step {env : Env} : GInv (act w x (fun n => leave n env) none) (k + 1) := by
  obtain ⟨hmem, _, hu, _, _, hst, _⟩ := actor_facts hinv hfind
  -- the flag is set and the own record, absent or not alive, stays
  have flag : ∀ {ts'}, leave n env = ({ n with hasLeft := true, timers := ts' }, []) →
      (∀ t ∈ ts', t ∈ n.timers) → (∀ me, selfRec n = some me → me.st ≠ .alive) → GInv (act w x (fun n => leave n env) none) (k + 1) :=
    fun e hT hna => gsame_like hinv hfind id e (Or.inl rfl) SameG.refl (Or.inr ⟨rfl, hna⟩) hu (fun t ht => hst t (hT t ht))
      Option.map_id'.symm (fun _ _ y hy _ => Or.inl ⟨y, hy, rfl⟩) (fun _ _ _ ho => nomatch ho)
  rcases leave_cases n env with ⟨_, e⟩ | ⟨hme, e⟩ | ⟨me, hme, hnl, e⟩
  · exact gnoop_like hinv hfind e
  · exact flag e (fun _ h => h) (fun me h => by cases hme.symm.trans h)
  · have hK : Known w n.cfg.self me.inc := ⟨n, hmem, rfl, me, hme, Nat.le_refl _⟩
    rcases deadNode_cases { n with hasLeft := true } { inc := me.inc, node := n.cfg.self, frm := n.cfg.self } env with
      ⟨h, _⟩ | ⟨me', hme', _, ⟨hd, e'⟩ | ⟨_, ⟨_, hnl', _⟩ | ⟨_, e'⟩⟩⟩
    · exact absurd (h me hme) (Nat.lt_irrefl _)
    · cases hme.symm.trans hme'
      exact flag (e.trans e') (fun _ h => mem_delTimer' h) (fun me0 h0 hal => by
        cases hme.symm.trans h0; rw [hal] at hd; cases hd)
    · cases hnl'
    · cases hme.symm.trans hme'
      exact ggone_like hinv hfind (e.trans e') rfl (fun _ h => mem_delTimer' h) hme rfl (Nat.le_refl _) hK

end Acting

theorem gsnapshot_step (w : World) (k : Nat) (n : Node) (hinv : GInv w k) (hmem : n ∈ w.nodes) :
    GInv { w with pool := w.pool ++ n.recs.map (fun r => Msg.state (stateOfRec r)) } (k + 1) := by
  obtain ⟨hnd, hnodes, hpool⟩ := hinv
  have hext : Ext w { w with pool := w.pool ++ n.recs.map (fun r => Msg.state (stateOfRec r)) } := Ext.of_nodes_eq rfl
  refine ⟨hnd, fun n0 hn0 => (hnodes n0 hn0).ext hext (Nat.le_succ k), fun m hm => ?_⟩
  rcases List.mem_append.mp hm with h | h
  · exact (hpool m h).ext hext
  · obtain ⟨r, hr, rfl⟩ := List.mem_map.mp h
    obtain ⟨hu, _, hsf, _, hrg⟩ := hnodes n hmem
    apply GBenign.ext hext
    have hgood : RecG w r := by
      by_cases e : r.name = n.cfg.self
      · -- the sender's own entry is not under `RecG` in `NodeG`: `SelfFactsG` and `own_facts` give the same
        have hme : selfRec n = some r := show lookup _ _ = _ from e ▸ lookup_of_mem hu hr
        obtain ⟨_, f2, f3, f4, _, _⟩ := hsf r hme
        obtain ⟨o1, o2, o3⟩ := own_facts hmem hme
        rw [← e] at o2 o3
        refine ⟨fun _ => ⟨⟨f2, f3, o1⟩, o2⟩, o2, fun hst => o3 ?_⟩
        rcases f4 with h | h
        · rw [hst] at h; cases h
        · exact h
      · exact hrg r hr e
    exact ⟨hgood.2.1, hgood.1, hgood.2.2⟩

theorem GInv.mono {w : World} {k : Nat} (h : GInv w k) : GInv w (k + 1) :=
  ⟨h.1, fun n hn => (h.2.1 n hn).ext (Ext.of_nodes_eq rfl) (Nat.le_succ k), h.2.2⟩

theorem gstep_inv (w : World) (k : Nat) (op : COp) (hinv : GInv w k) (hk : k + 1 < u32) :
    GInv (w.step op) (k + 1) := by
  refine World.step_ind (P := fun _ w' => GInv w' (k + 1)) (h0 := fun _ => hinv.mono)
    (deliver := fun x _ env m n hm hf => ?_)
    (snapshot := fun _ n hf => gsnapshot_step w k n hinv (find_actor hf).1)
    (announce := fun _ _ _ _ _ _ _ hf => gannounce_step hinv hf hk)
    (leave := fun _ _ _ hf => gleave_step hinv hf) (fire := fun _ _ _ _ _ hf => gfire_step hinv hf hk)
    (reap := fun _ _ hf => greap_step hinv hf) (age := fun _ _ _ hf => gage_step hinv hf)
    (probeFail := fun _ _ _ _ hf => gprobeFail_step hinv hf hk) op
  have hb : GBenign w m := hinv.2.2 m hm
  cases m with
  | alive a => exact galive_step hinv hf hb
  | suspect c => exact gsuspect_like hinv hf hk rfl hb
  | dead c => exact gdead_like hinv hf hk rfl hb.1 hb.2
  | state s =>
    obtain ⟨b1, b2, b3⟩ := hb
    cases hs : s.st with
    | alive =>
      rw [receive_state_alive s env hs]
      simp only [srcOf, hs, ↓reduceIte]
      exact galive_step hinv hf (b2 hs)
    | left =>
      rw [receive_state_left s env hs]
      exact gdead_like hinv hf hk rfl b1.known (fun _ => b3 hs)
    | suspect => exact gsuspect_like hinv hf hk (receive_state_susp s env n (Or.inl hs)) b1.known
    | dead => exact gsuspect_like hinv hf hk (receive_state_susp s env n (Or.inr hs)) b1.known

theorem gfresh_inv (w : World) (h : Fresh w) : GInv w 0 := by
  obtain ⟨h1, h2, h3, _⟩ := h
  refine ⟨h1, ?_, by rw [h3]; simp⟩
  intro n hn
  obtain ⟨a, b, c, d, e⟩ := h2 n hn
  refine ⟨by simp [Uniq, a], Nat.le_of_eq c, ?_, ?_, by rw [a]; simp⟩
  · intro me hme
    rw [selfRec, a] at hme; cases hme
  · intro t ht; rw [b] at ht; cases ht

theorem grun_inv (ops : List COp) : ∀ (w : World) (k : Nat), GInv w k → k + ops.length < u32 →
    GInv (w.run ops) (k + ops.length) := by
  induction ops with
  | nil => intro w k h _; exact h
  | cons op ops ih =>
    intro w k h hk
    rw [List.length_cons, ← Nat.succ_add_eq_add_succ] at hk ⊢
    exact ih (w.step op) (k + 1) (gstep_inv w k op h (Nat.lt_of_le_of_lt (Nat.le_add_right _ _) hk)) hk

theorem grun_ind {P : World → Prop} {ok : COp → Prop}
    (hstep : ∀ w k op, GInv w k → k + 1 < u32 → ok op → P w → P (w.step op)) (ops : List COp) :
    ∀ (w : World) (k : Nat), GInv w k → P w → (∀ op ∈ ops, ok op) → k + ops.length < u32 → P (w.run ops) := by
  induction ops with
  | nil => intro w k _ h _ _; exact h
  | cons op ops ih =>
    intro w k hG hP hops hk
    rw [List.length_cons, ← Nat.succ_add_eq_add_succ] at hk
    have hk1 : k + 1 < u32 := Nat.lt_of_le_of_lt (Nat.le_add_right _ _) hk
    exact ih (w.step op) (k + 1) (gstep_inv w k op hG hk1) (hstep w k op hG hk1 (hops op List.mem_cons_self) hP)
      (fun o ho => hops o (List.mem_cons_of_mem _ ho)) hk

theorem ginv_reachable {w0 : World} (ops : List COp) (hfresh : Fresh w0) (hlen : ops.length < u32) :
    GInv (w0.run ops) ops.length := by
  have := grun_inv ops w0 0 (gfresh_inv w0 hfresh) (by rwa [Nat.zero_add])
  rwa [Nat.zero_add] at this

theorem accusation_facts {w : World} {k : Nat} (hinv : GInv w k) {X y : Node} (hX : X ∈ w.nodes) (hy : y ∈ w.nodes)
    {me r : Rec} (hme : selfRec X = some me) (hr : r ∈ y.recs) (hrn : r.name = X.cfg.self)
    (hne : X.cfg.self ≠ y.cfg.self) :
    r.inc ≤ me.inc ∧ (r.addr = me.addr ∧ r.port = me.port) ∧ lookup y.recs X.cfg.self = some r := by
  obtain ⟨hle, ha, hp⟩ := knownAt_self hinv hX hme hrn (hinv.recG hy hr (by rw [hrn]; exact hne)).2.1
  exact ⟨hle, ⟨ha.symm, hp.symm⟩, by rw [← hrn]; exact lookup_of_mem (hinv.uniq hy) hr⟩

/-- after `X` sends its state list some pool index holds the entry about `X` itself, and delivering it makes `y`
process exactly that entry -/
theorem exchange_self {w : World} {k : Nat} (hinv : GInv w k) {X y : Node} (hX : X ∈ w.nodes) (hy : y ∈ w.nodes)
    {me : Rec} (hme : selfRec X = some me) (env : Env) :
    ∃ j, nodeAt (w.run [.snapshot X.cfg.self, .deliver y.cfg.self (w.pool.length + j) env]) y.cfg.self =
      some (receive (.state (stateOfRec me)) env y).1 := by
  obtain ⟨j, hj⟩ := List.mem_iff_getElem?.mp (lookup_mem hme)
  refine ⟨j, ?_⟩
  simp only [World.run, List.foldl_cons, List.foldl_nil]
  rw [deliver_nodeAt (by rw [snapshot_pool (nodeAt_of_mem hinv.1 hX)]; exact pool_index _ _ _ _ hj)
    ((snapshot_nodeAt ..).trans (nodeAt_of_mem hinv.1 hy)), if_pos rfl]

theorem accusation_refuted {w : World} {k : Nat} (hinv : GInv w k) {X : Node} (hX : X ∈ w.nodes) {me r : Rec}
    (hme : selfRec X = some me) (hal : me.st = .alive) (hrn : r.name = X.cfg.self)
    (hacc : r.st = .suspect ∨ r.st = .dead) (hle : me.inc ≤ r.inc) (env : Env) :
    receive (.state (stateOfRec r)) env X = refute X me r.inc := by
  have hme : lookup X.recs r.name = some me := hrn ▸ hme
  rw [receive_state_susp _ env X hacc]
  exact suspectNode_self X { inc := r.inc, node := r.name, frm := X.cfg.self } env me hrn hme hal
    ((hinv.noSelfTimer hX).find_none hrn) hle

end Swim.Cluster
