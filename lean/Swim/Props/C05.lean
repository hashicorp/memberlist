import Swim.Props.C01
import Swim.Props.C02
/-!
# C05  Views re-converge to the live set once faults stop
Logic part: an accusation is always overridden by the accused member's newer alive claim wherever
it is delivered; a refutation always outranks the accusation (C02); a state exchange teaches each
side every newer alive record of the other (C09). Convergence itself depends on random target
selection and is observed by the simulator (known finding: stable split).
-/
namespace Swim.Merge

/-- Wherever it is delivered (any node but the member itself), an alive claim that passes the filters, from the address
on record, with an incarnation above the one at which the member is held suspect or dead replaces the
accusation: the member is alive again at the new incarnation, its suspicion timer is gone. -/
theorem C05_accusation_overridden (n : Node) (a : AliveMsg) (nt b : Bool) (env : Env) (r : Rec)
    (hself : a.node ≠ n.cfg.self) (hr : lookup n.recs a.node = some r)
    (hv : vsnBad a.vsn = false)
    (hdel : (n.cfg.hasAliveDelegate && (a.vsn.length < 6 || !env.delegateOk)) = false)
    (hsame : r.addr = a.addr ∧ r.port = a.port) (hnewer : r.inc < a.inc) :
    (∃ r', lookup (aliveNode n a nt b env).1.recs a.node = some r' ∧ r'.st = .alive ∧ r'.inc = a.inc) ∧
    (aliveNode n a nt b env).1.timers = delTimer n.timers a.node := by
  rw [aliveNode_accept n a nt b env r hself hr (dropped_eq_false hself hv hdel) hsame hnewer]
  exact ⟨⟨acceptRec r a env, lookup_setRec_of_some hr rfl, rfl, rfl⟩, rfl⟩

/-- After the accused (running) node has processed a suspect claim at
incarnation `i ≥` its own (no suspicion timer about itself; its counter below 2^32 and `i` below 2^32 - 1), its
incarnation is above `i` and an alive claim carrying it is queued -
so by `C05_accusation_overridden` every holder of the accusation that receives it drops it. -/
theorem C05_none_sticks (n : Node) (s : Claim) (env : Env) (me : Rec)
    (hnode : s.node = n.cfg.self) (hme : lookup n.recs n.cfg.self = some me)
    (halive : me.st = .alive) (hnt : n.timers.find? (·.node == s.node) = none)
    (hinc : me.inc ≤ s.inc) (hc : n.selfInc < u32) (ha : s.inc < u32 - 1) :
    s.inc < (suspectNode n s env).1.selfInc ∧
    Out.bcast ("@" ++ n.cfg.self) .alive n.cfg.self (suspectNode n s env).1.selfInc "" false ∈ (suspectNode n s env).2 := by
  obtain ⟨h1, _, h3, _⟩ := C02_suspect_refuted n s env me hnode hme halive hnt hinc hc ha
  exact ⟨h1, (List.mem_filter.mp (h3 ▸ List.mem_singleton_self _)).1⟩

/-- Merging one entry of the other side's state, a takeover excepted, never moves the receiver's view of the entry's
subject backwards (`C01_merge_forward` at the entry's own name). That a newer alive entry is adopted is
`C09_join_lists`; that remote dead/suspect entries only start a suspicion, `C09_hearsay_never_kills`. -/
theorem C05_pushpull_learns (n : Node) (r : PushState) (now : Nat) (hself : r.name ≠ n.cfg.self)
    (hno : ¬ takeover n { inc := r.inc, node := r.name, addr := r.addr, port := r.port, md := r.md, vsn := r.vsn }
      { now, ipAllowed := r.ipAllowed, delegateOk := r.delegateOk, offset := r.offset }) :
    kle (key (lookup n.recs r.name)) (key (lookup (mergeOne n r now).1.recs r.name)) :=
  C01_merge_forward n r now r.name hself fun _ _ => hno

end Swim.Merge
