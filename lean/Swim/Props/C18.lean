import Swim.Lemmas.Rules
/-!
# C18  The CIDR allow-list is enforced on every admission path

`allowed` is an arbitrary predicate on address codes; the environment verdict `env.ipAllowed`
of a call is `allowed a.addr` (that is what `Config.IPAllowed` computes).
-/
namespace Swim.Merge

def AllAllowed (allowed : Nat → Bool) (n : Node) : Prop := ∀ r ∈ n.recs, allowed r.addr = true

theorem AllAllowed.setRec {allowed : Nat → Bool} {n n' : Node} {r : Rec} (h : AllAllowed allowed n)
    (hrecs : n'.recs = setRec n.recs r) (hr : allowed r.addr = true) : AllAllowed allowed n' := by
  intro x hx
  rw [hrecs] at hx
  rcases mem_setRec hx with hx | rfl
  · exact h x hx
  · exact hr

/-- With every held address allowed, and the verdict of the call being
the allow-list's verdict on the claimed address, every address held afterwards is allowed:
new members, address changes and name reclaims are all gated. -/
theorem C18_alive_allowed (allowed : Nat → Bool) (n : Node) (a : AliveMsg) (nt b : Bool) (env : Env)
    (hinv : AllAllowed allowed n) (henv : env.ipAllowed = allowed a.addr) :
    AllAllowed allowed (aliveNode n a nt b env).1 := by
  refine aliveNode_elim (R := fun n res => AllAllowed allowed n → AllAllowed allowed res.1) a nt b env ?_
    (fun _ h => h) ?_ n hinv
  · intro n r hr h
    have hra := h r (lookup_mem hr)
    rcases aliveNode_known n a nt b env r hr with e | ⟨_, _, _, e⟩ | ⟨_, _, _, _, e⟩ | ⟨_, _, _, _, e⟩ | ⟨_, _, ha, e⟩
      <;> rw [e]
    · exact h
    · exact h
    · exact h
    · exact h.setRec (n := n) rfl hra
    · refine h.setRec (n := n) rfl ?_
      rcases ha with ⟨ha, _⟩ | ⟨_, _, _, hip, _⟩
      · exact (show (acceptRec r a env).addr = r.addr from ha.symm) ▸ hra
      · exact henv ▸ hip
  · intro n res _ hip hres h
    refine hres fun x hx => ?_
    rcases List.mem_append.mp hx with hx | hx
    · exact h x hx
    · cases List.mem_singleton.mp hx; exact henv ▸ hip

/-- suspect and dead claims never change an address -/
theorem C18_suspect_allowed (allowed : Nat → Bool) (n : Node) (s : Claim) (env : Env)
    (hinv : AllAllowed allowed n) : AllAllowed allowed (suspectNode n s env).1 := by
  rcases suspectNode_cases n s env with e | ⟨r, hr, _, ⟨_, _, _, e⟩ | ⟨_, _, ⟨_, e⟩ | ⟨_, e⟩⟩⟩ <;> rw [e]
  · exact hinv
  · exact hinv
  all_goals exact hinv.setRec (n := n) rfl (hinv r (lookup_mem hr))

theorem C18_dead_allowed (allowed : Nat → Bool) (n : Node) (d : Claim) (env : Env)
    (hinv : AllAllowed allowed n) : AllAllowed allowed (deadNode n d env).1 := by
  rcases deadNode_cases n d env with ⟨_, e⟩ | ⟨r, hr, _, ⟨_, e⟩ | ⟨_, ⟨_, _, e⟩ | ⟨_, e⟩⟩⟩ <;> rw [e]
  · exact hinv
  · exact hinv
  all_goals exact hinv.setRec (n := n) rfl (hinv r (lookup_mem hr))

/-- Every entry of a state exchange is gated like a direct claim. -/
theorem C18_merge_allowed (allowed : Nat → Bool) (n : Node) (rs : List PushState) (now : Nat)
    (hinv : AllAllowed allowed n) (henv : ∀ r ∈ rs, r.ipAllowed = allowed r.addr) :
    AllAllowed allowed (mergeState n rs now).1 := by
  induction rs generalizing n with
  | nil => exact hinv
  | cons r rs ih =>
    rw [mergeState_cons]
    refine ih _ ?_ fun x hx => henv x (List.mem_cons_of_mem _ hx)
    rw [mergeOne_eq]
    split
    · exact C18_alive_allowed allowed n _ false false _ hinv (henv r List.mem_cons_self)
    · exact C18_dead_allowed allowed n _ _ hinv
    · exact C18_suspect_allowed allowed n _ _ hinv

/-- every environment verdict inside an operation is the allow-list's verdict on the claimed address -/
def opHonest (allowed : Nat → Bool) : Op → Prop
  | .alive a _ env => env.ipAllowed = allowed a.addr
  | .merge rs _ => ∀ r ∈ rs, r.ipAllowed = allowed r.addr
  | .update a _ _ _ env => env.ipAllowed = allowed a
  | _ => True

theorem C18_step_allowed (allowed : Nat → Bool) (n : Node) (op : Op) (hinv : AllAllowed allowed n)
    (hop : opHonest allowed op) : AllAllowed allowed (step n op).1 := by
  cases op with
  | alive a b env => exact C18_alive_allowed allowed n a false b env hinv hop
  | merge rs now => exact C18_merge_allowed allowed n rs now hinv hop
  | update a p m v env => exact C18_alive_allowed allowed { n with selfInc := (n.selfInc + 1) % u32 } _ true true env hinv hop
  | suspect c env => exact C18_suspect_allowed allowed n c env hinv
  | dead c env => exact C18_dead_allowed allowed n c env hinv
  | fire node ca env =>
    show AllAllowed allowed (timerFire n node ca env).1
    rcases timerFire_cases n node ca env with ⟨_, e⟩ | ⟨_, _, _, _, e⟩ <;> rw [e]
    · exact hinv
    · exact C18_dead_allowed allowed n _ env hinv
  | reap => exact fun r hr => hinv r (List.mem_filter.mp hr).1
  | leave env =>
    show AllAllowed allowed (leave n env).1
    rcases leave_cases n env with ⟨_, e⟩ | ⟨_, e⟩ | ⟨_, _, _, e⟩ <;> rw [e]
    · exact hinv
    · exact hinv
    · exact C18_dead_allowed allowed { n with hasLeft := true } _ env hinv
  | age name =>
    intro r hr
    obtain ⟨x, hx, rfl⟩ := List.mem_map.mp hr
    split <;> exact hinv x hx

/-- After any sequence of operations whose verdicts are the allow-list's (`opHonest`), by any carrier (direct alive
claims, push/pull entries, address changes, name reclaims, suspicion / death / departure traffic, reaping, local API
calls), every record the node holds - and therefore every member `Members()` lists - has an allowed address. -/
theorem C18_history (allowed : Nat → Bool) (n : Node) (ops : List Op) (hinv : AllAllowed allowed n)
    (hops : ∀ op ∈ ops, opHonest allowed op) :
    AllAllowed allowed (ops.foldl (fun n op => (step n op).1) n) :=
  List.foldlRecOn ops _ hinv fun n hn op hop => C18_step_allowed allowed n op hn (hops op hop)

/-- a join event announces the name and address of the alive claim that caused it: the address then on record, allowed
by `C18_alive_allowed` -/
theorem C18_alive_join_allowed (n : Node) (a : AliveMsg) (nt b : Bool) (env : Env)
    (nm : String) (ad p m : Nat) (hself : a.node ≠ n.cfg.self)
    (h : Out.join nm ad p m ∈ (aliveNode n a nt b env).2) : nm = a.node ∧ ad = a.addr ∧ p = a.port := by
  revert h
  refine aliveNode_elim (R := fun n res => a.node ≠ n.cfg.self → Out.join nm ad p m ∈ res.2 → _) a nt b env ?_
    (fun _ _ h => nomatch h) (fun _ _ _ _ h => h) n hself
  intro n r hr hself
  rcases aliveNode_known_other n a nt b env r hself hr with ⟨_, ho⟩ | ⟨_, _, e⟩
  · intro h
    obtain ⟨_, _, _, e⟩ := ho _ h
    cases e
  rw [e]
  intro h
  rcases mem_acceptOuts h with e | ⟨_, e⟩ | ⟨_, e⟩ <;> cases e
  exact ⟨rfl, rfl, rfl⟩

end Swim.Merge
