import Swim.Props.C19
import Swim.Lemmas.Rules
/-!
# C04  No false suspicion in a healthy cluster
Logic part: (1) a probe whose acknowledgement returns within the probe timeout is answered;
(2) the claims that circulate in a healthy cluster (alive claims, self-signed departures) never
create a suspicion, a suspicion timer or a failure record, and never touch the health score.
The runtime hypotheses ("responsive", "delivered within half the probe timeout") are stated as
hypotheses; the simulator observes them in virtual time.
-/
namespace Swim.Acks

/-- If each packet is delivered within half the probe timeout, the ack of a responsive target arrives
before the probe timeout, hence (`ProbeTimeout ≤ ProbeInterval`) before the deadline: the probe is
answered, nobody is suspected and the health score moves down (towards zero), never up. -/
theorem C04_ack_in_time_no_suspect (c : Cfg) (score : Nat) (evs : List Ev) (exp : Nat) (tcp : Bool)
    (lat1 lat2 : Nat) (h1 : 2 * lat1 < c.probeTimeout) (h2 : 2 * lat2 < c.probeTimeout)
    (hpt : c.probeTimeout ≤ c.probeInterval)
    (hack : ⟨lat1 + lat2, .ack, true⟩ ∈ evs) :
    probeOutcome c score evs exp tcp = (false, -1) := by
  refine C19_answered_ok c score evs exp tcp ((C19_answered_iff ..).mpr ⟨_, hack, rfl, rfl, ?_⟩)
  show lat1 + lat2 < c.probeInterval * (score + 1)
  exact Nat.lt_of_lt_of_le (by omega) (Nat.le_trans hpt (Nat.le_mul_of_pos_right _ (Nat.succ_pos _)))

/-- a score of zero stays zero under successful probes -/
theorem C04_score_stays_zero (max : Nat) : applyDelta max 0 (-1) = 0 := by
  rw [applyDelta_eq]
  exact Int.toNat_eq_zero.mpr (Int.le_trans (Int.min_le_left ..) (by decide))

end Swim.Acks

namespace Swim.Merge

/-- the node holds no suspicion: every record is alive or left, and no timer exists -/
def Healthy (n : Node) : Prop := (∀ r ∈ n.recs, r.st = .alive ∨ r.st = .left) ∧ n.timers = []

/-- An alive claim about another member never creates a suspect or dead record and never a timer; the
health score is untouched. Stated for claims with a positive incarnation (every real node announces
itself with incarnation >= 1): they overwrite at once the dead incarnation-0 stub that `aliveNode`
inserts for a member never seen. -/
theorem C04_alive_keeps_healthy (n : Node) (a : AliveMsg) (nt b : Bool) (env : Env)
    (h : Healthy n) (hself : a.node ≠ n.cfg.self) (hinc : 0 < a.inc) :
    Healthy (aliveNode n a nt b env).1 ∧ (aliveNode n a nt b env).1.score = n.score ∧
    (∀ o ∈ (aliveNode n a nt b env).2, ∀ nm, o ≠ Out.leave nm) := by
  obtain ⟨hr, ht⟩ := h
  rcases aliveNode_other n a nt b env hself hinc with ⟨e, ho⟩ | ⟨m, r, hm, hlk, e⟩
  · rw [e]
    exact ⟨⟨hr, ht⟩, rfl, fun o h nm => by obtain ⟨_, _, _, rfl⟩ := ho o h; exact nofun⟩
  · -- the stub touches neither timers nor score
    have hts : m.timers = n.timers ∧ m.score = n.score := by rcases hm with rfl | ⟨_, rfl, _⟩ <;> exact ⟨rfl, rfl⟩
    rw [e]
    refine ⟨⟨fun x hx => ?_, by simp [hts.1, ht]⟩, hts.2, fun o ho => accept_no_leave ho⟩
    · -- every record of the name, the stub included, is replaced by the accepted one
      rcases mem_setRec_cases hx with ⟨hx', hne⟩ | rfl
      · rcases hm with rfl | ⟨_, rfl, rfl⟩
        · exact hr x hx'
        · rcases List.mem_append.mp hx' with h | h
          · exact hr x h
          · cases List.mem_singleton.mp h; exact absurd rfl hne
      · exact .inl rfl

/-- A self-signed dead claim (graceful leave)
about another member - or about the node itself once it has called Leave - turns an alive record into
a left one, never into a failure, creates no timer and does not touch the health score or the Leave
flag; the effects, if any, are the dead claim as received and one leave event for the member that left. -/
theorem C04_departure_keeps_healthy (n : Node) (d : Claim) (env : Env)
    (h : Healthy n) (hown : d.node = n.cfg.self → n.hasLeft = true) (hfrom : d.frm = d.node) :
    Healthy (deadNode n d env).1 ∧ (deadNode n d env).1.score = n.score ∧ (deadNode n d env).1.hasLeft = n.hasLeft ∧
    ((deadNode n d env).2 = [] ∨ ∃ b, (deadNode n d env).2 = [.bcast d.node .dead d.node d.inc d.frm b, .leave d.node]) := by
  obtain ⟨hr, ht⟩ := h
  rcases deadNode_cases n d env with ⟨_, e⟩ | ⟨r, _, _, ⟨_, e⟩ | ⟨_, ⟨hs, hnl, _⟩ | ⟨_, e⟩⟩⟩
  · rw [e]; exact ⟨⟨hr, ht⟩, rfl, rfl, .inl rfl⟩
  · rw [e]; exact ⟨⟨hr, by simp [ht]⟩, rfl, rfl, .inl rfl⟩
  · rw [hown hs] at hnl; cases hnl
  · rw [e]
    refine ⟨⟨fun x hx => ?_, by simp [ht]⟩, rfl, rfl, .inr ⟨_, rfl⟩⟩
    rcases mem_setRec hx with hx | rfl
    · exact hr x hx
    · exact .inr (by simp [hfrom])

/-- corollary: alive and departure claims never create a timer on a healthy node; only a suspect claim could, and in a
healthy cluster none is ever sent (`C04_cluster_history`) -/
theorem C04_no_timer_from_healthy_claims (n : Node) (a : AliveMsg) (nt b : Bool) (env : Env) (d : Claim)
    (h : Healthy n) (hs1 : a.node ≠ n.cfg.self) (hinc : 0 < a.inc) (hs2 : d.node ≠ n.cfg.self) (hf : d.frm = d.node) :
    (aliveNode n a nt b env).1.timers = [] ∧ (deadNode n d env).1.timers = [] :=
  ⟨(C04_alive_keeps_healthy n a nt b env h hs1 hinc).1.2, (C04_departure_keeps_healthy n d env h (fun e => absurd e hs2) hf).1.2⟩

end Swim.Merge
