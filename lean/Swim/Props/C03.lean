import Swim.Model.Probe
/-!
# C03  A crashed member is removed by every live node within a bounded time
(the logic part: the probe schedule; the timing part is observed by the simulator)

The schedule is used through `probeLoop_next`: a probe returns the first eligible entry at or after the cursor.
-/
namespace Swim.Probe

/-- Whatever the list, the cursor, the shuffle and the fuel, the member handed to `probeNode` is never the local node
and never a dead or departed member. -/
theorem C03_probe_target_ok (self : String) (reorder : List PNode → List PNode) :
    ∀ (fuel numCheck : Nat) (c : Cursor) (c' : Cursor) (t : PNode),
      probeLoop self reorder fuel numCheck c = (c', some t) → t.name ≠ self ∧ t.gone = false := by
  intro fuel nc c c' t h
  fun_induction probeLoop self reorder fuel nc c with
  | case1 | case2 | case4 => cases h
  | case3 | case6 => rename_i ih; exact ih h
  | case5 _ _ _ _ _ n _ he =>
    cases h
    simpa [eligible] using he

theorem probeLoop_at (self : String) (reorder : List PNode → List PNode) (fuel nc : Nat) (c : Cursor) (n : PNode)
    (h1 : nc < c.nodes.length) (hn : c.nodes[c.idx]? = some n) :
    probeLoop self reorder (fuel + 1) nc c =
      if eligible self n then ({ c with idx := c.idx + 1 }, some n)
      else probeLoop self reorder fuel (nc + 1) { c with idx := c.idx + 1 } := by
  have h2 : c.idx < c.nodes.length := (List.getElem?_eq_some_iff.mp hn).1
  simp [probeLoop, Nat.not_le.mpr h1, Nat.not_le.mpr h2, hn]

/-- a probe returns the first eligible entry at or after the cursor, if the budget of skips and fuel reaches it -/
theorem probeLoop_next (self : String) (reorder : List PNode → List PNode) (k fuel nc : Nat) (c : Cursor) (t : PNode)
    (hskip : ∀ j, j < k → ∃ x, c.nodes[c.idx + j]? = some x ∧ eligible self x = false)
    (ht : c.nodes[c.idx + k]? = some t) (he : eligible self t = true)
    (hnc : nc + k < c.nodes.length) (hf : k < fuel) :
    probeLoop self reorder fuel nc c = ({ c with idx := c.idx + k + 1 }, some t) := by
  induction fuel generalizing k nc c with
  | zero => exact absurd hf (Nat.not_lt_zero k)
  | succ f ih =>
    cases k with
    | zero => rw [probeLoop_at self reorder f nc c t hnc ht, he]; rfl
    | succ k =>
      obtain ⟨x, hx, hxe⟩ := hskip 0 (Nat.succ_pos k)
      have e : ∀ j, c.idx + (j + 1) = c.idx + 1 + j := fun j => Nat.add_right_comm c.idx j 1
      rw [probeLoop_at self reorder f nc c x (Nat.lt_of_le_of_lt (Nat.le_add_right ..) hnc) hx, hxe,
        ih k (nc + 1) { c with idx := c.idx + 1 } (fun j hj => e j ▸ hskip (j + 1) (Nat.succ_lt_succ hj)) (e k ▸ ht)
          (Nat.succ_add_eq_add_succ nc k ▸ hnc) (Nat.lt_of_succ_lt_succ hf), e k]
      rfl

/-- with the cursor on an eligible entry, `probe()` hands out that entry and moves the cursor one place on -/
theorem C03_probe_advances (self : String) (reorder : List PNode → List PNode) (c : Cursor) (n : PNode)
    (hidx : c.idx < c.nodes.length) (hn : c.nodes[c.idx]? = some n) (he : eligible self n = true)
    (hlen : 0 < c.nodes.length) :
    probe self reorder c = ({ c with idx := c.idx + 1 }, some n) :=
  probeLoop_next self reorder 0 _ 0 c n (fun _ h => nomatch h) hn he hlen (Nat.succ_pos _)

/-- the eligible members from position `i` on, in list order -/
def remaining (self : String) (nodes : List PNode) (i : Nat) : List PNode := (nodes.drop i).filter (eligible self)

/-- While membership does not change and before the wrap-around, a probe returns the next eligible member
at or after the cursor, provided the number of entries skipped on the way stays below the list length (the
`numCheck` guard of `probe()`). This is one step of a pass; the iteration over a whole pass is not a theorem. -/
theorem C03_pass_step (self : String) (reorder : List PNode → List PNode) :
    ∀ (k : Nat) (fuel nc : Nat) (c : Cursor) (t : PNode) (rest : List PNode),
      remaining self c.nodes c.idx = t :: rest →
      -- k ineligible entries stand between the cursor and t
      (∀ j, j < k → ∃ x, c.nodes[c.idx + j]? = some x ∧ eligible self x = false) →
      c.nodes[c.idx + k]? = some t → nc + k < c.nodes.length → k < fuel →
      probeLoop self reorder fuel nc c = ({ c with idx := c.idx + k + 1 }, some t) := by
  intro k fuel nc c t rest hrem hskip ht
  have : t ∈ remaining self c.nodes c.idx := hrem ▸ List.mem_cons_self
  exact probeLoop_next self reorder k fuel nc c t hskip ht (List.mem_filter.mp this).2

/-- The bound is monotone in every parameter, so evaluating it with the largest list length and the slowest pace
observed in the window is safe. -/
theorem C03_detectBound_mono (n n' d d' s s' : Nat) (hn : n ≤ n') (hd : d ≤ d') (hs : s ≤ s') :
    detectBound n d s ≤ detectBound n' d' s' :=
  Nat.add_le_add (Nat.mul_le_mul (Nat.mul_le_mul_left 2 (Nat.succ_le_succ hn)) hd) hs

/-- reaping at the wrap-around never removes the local record or a member that is still listed -/
theorem C03_reset_keeps_listed (self : String) (nodes : List PNode) (x : PNode) (hx : x ∈ nodes)
    (h : x.gone = false ∨ x.name = self) : x ∈ (nodes.filter fun n => !(n.gone && n.reapable) || n.name == self) := by
  simp only [List.mem_filter, hx, true_and]
  rcases h with h | h <;> simp [h]

end Swim.Probe
