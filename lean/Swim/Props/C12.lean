import Swim.Lemmas.Digits
import Swim.Props.C16
/-!
# C12  The wire pipeline round-trips every message under every configuration

Byte-exact layers (PKCS7 here, label in C16, compound in C11) are proved outright; the packet pipeline
is proved over abstract primitives whose laws are hypotheses (compression, AEAD, checksum). That pipeline is
defined in this file: `Prims`, `SendCfg`, the layers `compLayer` / `crcLayer` / `encLayer` with their inverses,
`sendPacket`, `recvPacket`. `Swim.Codec.unCrc` here and `Swim.Ingest.unCrc` (`Model/Ingest`, the hostile-input
path) are different functions.
-/
namespace Swim.Codec

theorem pkcs7_of_padded (buf : Bytes) (k bs : Nat) (hk : 0 < k) (hk' : k < 256) :
    pkcs7valid (buf ++ List.replicate k (UInt8.ofNat k)) bs = ((buf.length + k) % bs == 0 && decide (k ≤ bs)) ∧
    pkcs7strip (buf ++ List.replicate k (UInt8.ofNat k)) = buf := by
  have hlast : (buf ++ List.replicate k (UInt8.ofNat k)).getLast? = some (UInt8.ofNat k) := by
    rw [List.getLast?_append, List.getLast?_replicate, if_neg (Nat.ne_of_gt hk)]; rfl
  have hto : (UInt8.ofNat k).toNat = k := UInt8.toNat_ofNat_of_lt' hk'
  simp only [pkcs7valid, pkcs7strip, hlast, hto, List.length_append, List.length_replicate, Nat.add_sub_cancel,
    List.drop_left', List.take_left', List.all_replicate, beq_self_eq_true, and_true]
  simp [Nat.succ_le_of_lt hk, Nat.le_add_left]

/-- PKCS7 round trip for any block size a byte can count -/
theorem pkcs7_roundtrip (buf : Bytes) (bs : Nat) (h0 : 0 < bs) (h1 : bs < 256) :
    pkcs7valid (pkcs7pad buf bs) bs = true ∧ pkcs7strip (pkcs7pad buf bs) = buf := by
  obtain ⟨hv, hs⟩ := pkcs7_of_padded buf (bs - buf.length % bs) bs (Nat.sub_pos_of_lt (Nat.mod_lt _ h0))
    (Nat.lt_of_le_of_lt (Nat.sub_le ..) h1)
  -- the padded length is the next multiple of the block size
  rw [pkcs7pad, hv, add_pad _ _ h0, Nat.mul_mod_right, decide_eq_true (Nat.sub_le ..)]
  exact ⟨rfl, hs⟩

/-- Padding to a 16-byte block and stripping it returns the original buffer, and the padded buffer passes
the validity check the receiver applies. -/
theorem C12_pkcs7_roundtrip (buf : Bytes) :
    pkcs7valid (pkcs7pad buf 16) 16 = true ∧ pkcs7strip (pkcs7pad buf 16) = buf :=
  pkcs7_roundtrip buf 16 (by decide) (by decide)

/-- the padded length is the one `encryptedLength` budgets for version 0 -/
theorem C12_pkcs7_length (buf : Bytes) : (pkcs7pad buf 16).length = buf.length + (16 - buf.length % 16) := by
  simp [pkcs7pad]

/-- primitives of the pipeline with the laws the round-trip needs -/
structure Prims where
  compress : Bytes → Bytes
  decompress : Bytes → Option Bytes
  sealB : (key nonce aad plain : Bytes) → Bytes
  openB : (key nonce aad ct : Bytes) → Option Bytes
  crc : Bytes → Bytes
  decompress_compress : ∀ x, decompress (compress x) = some x
  open_seal : ∀ k n a p, openB k n a (sealB k n a p) = some p
  crc_len : ∀ x, (crc x).length = 4

structure SendCfg where
  label : Bytes
  key : Option Bytes       -- primary key when encryption is on
  nonce : Bytes            -- 12 bytes drawn by the sender
  compress : Bool
  crc : Bool
  vsn1 : Bool              -- encryption version 1 (no padding) / 0 (PKCS7)

def compLayer (P : Prims) (on : Bool) (msg : Bytes) : Bytes :=
  if on then UInt8.ofNat Gen.c_compressMsg :: P.compress msg else msg

def crcLayer (P : Prims) (on : Bool) (m : Bytes) : Bytes :=
  if on then UInt8.ofNat Gen.c_hasCrcMsg :: (P.crc m ++ m) else m

def encLayer (P : Prims) (c : SendCfg) (m : Bytes) : Bytes :=
  match c.key with
  | none => m
  | some k =>
    if c.vsn1 then (1 : UInt8) :: (c.nonce ++ P.sealB k c.nonce c.label m)
    else (0 : UInt8) :: (c.nonce ++ P.sealB k c.nonce c.label (pkcs7pad m 16))

/-- `rawSendMsgPacket` followed by the label-wrapping transport; `useComp` is the sender's
"compression made it smaller" decision -/
def sendPacket (P : Prims) (c : SendCfg) (useComp : Bool) (msg : Bytes) : Bytes :=
  addLabel c.label (encLayer P c (crcLayer P c.crc (compLayer P (c.compress && useComp) msg)))

def unEnc (P : Prims) (key : Option Bytes) (aad : Bytes) (b : Bytes) : Option Bytes :=
  match key with
  | none => some b
  | some k =>
    match b with
    | v :: rest =>
      if v == 1 then P.openB k (rest.take 12) aad (rest.drop 12)
      else if v == 0 then
        (P.openB k (rest.take 12) aad (rest.drop 12)).bind fun p => if pkcs7valid p 16 then some (pkcs7strip p) else none
      else none
    | [] => none

def unCrc (P : Prims) (b : Bytes) : Option Bytes :=
  match b with
  | t :: rest =>
    if t.toNat == Gen.c_hasCrcMsg && decide (b.length ≥ 5) then
      (if rest.take 4 == P.crc (rest.drop 4) then some (rest.drop 4) else none)
    else some b
  | [] => some b

def unComp (P : Prims) (b : Bytes) : Option Bytes :=
  match b with
  | t :: rest => if t.toNat == Gen.c_compressMsg then P.decompress rest else some b
  | [] => some b

/-- the receiver's side of the same layers (`ingestPacket`, `handleCompressed`), for a receiver configured
with label and key; returns the message handed on after the decompression layer -/
def recvPacket (P : Prims) (label : Bytes) (key : Option Bytes) (buf : Bytes) : Option Bytes :=
  match removeLabel buf with
  | .error _ => none
  | .ok (b1, carried) =>
    match labelGate label false carried with
    | none => none
    | some l => ((unEnc P key l b1).bind (unCrc P)).bind (unComp P)

theorem unComp_compLayer (P : Prims) (on : Bool) (t : UInt8) (rest : Bytes)
    (ht : t.toNat ≠ Gen.c_compressMsg) : unComp P (compLayer P on (t :: rest)) = some (t :: rest) := by
  cases on
  · have : (t.toNat == Gen.c_compressMsg) = false := by simpa using ht
    simp [compLayer, unComp, this]
  · have h9 : ((UInt8.ofNat Gen.c_compressMsg).toNat == Gen.c_compressMsg) = true := by decide
    simp only [compLayer, ↓reduceIte, unComp, h9, P.decompress_compress]

theorem compLayer_head (P : Prims) (on : Bool) (t : UInt8) (rest : Bytes) :
    ∃ t' r', compLayer P on (t :: rest) = t' :: r' ∧ (t' = t ∨ t' = UInt8.ofNat Gen.c_compressMsg) := by
  cases on
  · exact ⟨t, rest, rfl, Or.inl rfl⟩
  · exact ⟨_, _, rfl, Or.inr rfl⟩

theorem unCrc_crcLayer (P : Prims) (on : Bool) (t : UInt8) (rest : Bytes)
    (ht : t.toNat ≠ Gen.c_hasCrcMsg) : unCrc P (crcLayer P on (t :: rest)) = some (t :: rest) := by
  cases on
  · have : (t.toNat == Gen.c_hasCrcMsg) = false := by simpa using ht
    simp [crcLayer, unCrc, this]
  · have h12 : ((UInt8.ofNat Gen.c_hasCrcMsg).toNat == Gen.c_hasCrcMsg) = true := by decide
    have h4 := P.crc_len (t :: rest)
    have hlen : (UInt8.ofNat Gen.c_hasCrcMsg :: (P.crc (t :: rest) ++ t :: rest)).length ≥ 5 := by
      simp [h4]
    simp only [crcLayer, ↓reduceIte, unCrc, h12, hlen, decide_true, Bool.and_self, List.take_left' h4,
      List.drop_left' h4, beq_self_eq_true]

theorem crcLayer_head (P : Prims) (on : Bool) (t : UInt8) (rest : Bytes) :
    ∃ t' r', crcLayer P on (t :: rest) = t' :: r' ∧ (t' = t ∨ t' = UInt8.ofNat Gen.c_hasCrcMsg) := by
  cases on
  · exact ⟨t, rest, rfl, Or.inl rfl⟩
  · exact ⟨_, _, rfl, Or.inr rfl⟩

theorem unEnc_encLayer (P : Prims) (c : SendCfg) (m : Bytes) (hnonce : c.nonce.length = 12) :
    unEnc P c.key c.label (encLayer P c m) = some m := by
  unfold encLayer unEnc
  cases c.key with
  | none => rfl
  | some k =>
    by_cases hv : c.vsn1 = true
    · simp only [hv, ↓reduceIte, beq_self_eq_true, List.take_left' hnonce, List.drop_left' hnonce, P.open_seal]
    · have h01 : ((0 : UInt8) == 1) = false := by decide
      simp only [hv, Bool.false_eq_true, ↓reduceIte, h01, beq_self_eq_true, List.take_left' hnonce,
        List.drop_left' hnonce, P.open_seal, Option.bind_some, (C12_pkcs7_roundtrip m).1, (C12_pkcs7_roundtrip m).2]

theorem encLayer_keyed (P : Prims) (c : SendCfg) (m k : Bytes) (hk : c.key = some k) :
    ∃ v body, encLayer P c m = v :: (c.nonce ++ P.sealB k c.nonce c.label body) ∧ (v = 0 ∨ v = 1) := by
  unfold encLayer
  rw [hk]
  cases c.vsn1
  · exact ⟨0, _, rfl, .inl rfl⟩
  · exact ⟨1, _, rfl, .inr rfl⟩

theorem encLayer_head (P : Prims) (c : SendCfg) (t : UInt8) (rest : Bytes) :
    ∃ t' r', encLayer P c (t :: rest) = t' :: r' ∧ (t' = t ∨ t' = 0 ∨ t' = 1) := by
  cases hk : c.key with
  | none => exact ⟨t, rest, by rw [encLayer, hk], .inl rfl⟩
  | some k =>
    obtain ⟨v, body, h, hv⟩ := encLayer_keyed P c (t :: rest) k hk
    exact ⟨v, _, h, .inr hv⟩

/-- For every message whose first byte is none of the checksum / compression / label markers (every type a
node emits qualifies: `C12_emitted_types_ok`), every label of at most 255 bytes, key, 12-byte nonce,
compression decision, checksum setting and encryption version, a receiver with the same label and key
recovers exactly the message the sender handed to the pipeline. -/
theorem C12_packet_roundtrip (P : Prims) (c : SendCfg) (useComp : Bool) (t : UInt8) (rest : Bytes)
    (ht : t.toNat ≠ Gen.c_hasCrcMsg ∧ t.toNat ≠ Gen.c_compressMsg ∧ t.toNat ≠ Gen.c_hasLabelMsg)
    (hlabel : c.label.length ≤ 255) (hnonce : c.nonce.length = 12) :
    recvPacket P c.label c.key (sendPacket P c useComp (t :: rest)) = some (t :: rest) := by
  -- each layer leaves at the head the byte it was given or its own marker, never the marker of a layer further out
  obtain ⟨t1, r1, h1, h1t⟩ := compLayer_head P (c.compress && useComp) t rest
  have ht1 : t1.toNat ≠ Gen.c_hasCrcMsg ∧ t1.toNat ≠ Gen.c_hasLabelMsg := by
    rcases h1t with rfl | rfl
    · exact ⟨ht.1, ht.2.2⟩
    · decide
  obtain ⟨t2, r2, h2, h2t⟩ := crcLayer_head P c.crc t1 r1
  have ht2 : t2.toNat ≠ Gen.c_hasLabelMsg := by
    rcases h2t with rfl | rfl
    · exact ht1.2
    · decide
  obtain ⟨t3, r3, h3, h3t⟩ := encLayer_head P c t2 r2
  have ht3 : t3.toNat ≠ Gen.c_hasLabelMsg := by
    rcases h3t with rfl | rfl | rfl
    · exact ht2
    · decide
    · decide
  have hrm := removeLabel_addLabel c.label (t3 :: r3) hlabel fun _ h => Option.some.inj h ▸ ht3
  unfold sendPacket recvPacket
  -- forward (`h1 h2 h3`) to show `removeLabel_addLabel` the head byte, then backward, layer by layer, for the three inverses
  rw [h1, h2, h3, hrm]
  simp only [labelGate_own]
  rw [← h3, unEnc_encLayer P c _ hnonce, Option.bind_some, ← h2, unCrc_crcLayer P c.crc t1 r1 ht1.1,
    Option.bind_some, ← h1, unComp_compLayer P _ t rest ht.2.1]

/-- every message type a node emits at the head of a packet payload satisfies the hypothesis of
`C12_packet_roundtrip` (fact theorem over the regenerated numbering) -/
theorem C12_emitted_types_ok :
    [Gen.c_pingMsg, Gen.c_indirectPingMsg, Gen.c_ackRespMsg, Gen.c_suspectMsg, Gen.c_aliveMsg, Gen.c_deadMsg,
     Gen.c_pushPullMsg, Gen.c_compoundMsg, Gen.c_userMsg, Gen.c_nackRespMsg, Gen.c_errMsg].all
      (fun t => t ≠ Gen.c_hasCrcMsg && t ≠ Gen.c_compressMsg && t ≠ Gen.c_hasLabelMsg && t < 256) = true := by decide

end Swim.Codec
