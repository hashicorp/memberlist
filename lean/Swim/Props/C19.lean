import Swim.Model.Acks
import Swim.Gen.Facts
/-!
# C19  Probe acknowledgements are correctly correlated, relayed and cleaned up

Three lemmas carry the file: `any_ack_iff` (what the `any` over the events of a probe says), `probeOutcome_cases`
(the two ways a probe ends) and `applyDelta_eq` (the clamped health score without its case split).
-/
namespace Swim.Acks

theorem any_ack_iff (d : Nat) (evs : List Ev) :
    (evs.any fun e => e.kind == .ack && e.mine && e.t < d) = true ↔ ∃ e ∈ evs, e.kind = .ack ∧ e.mine = true ∧ e.t < d := by
  simp [and_assoc]

/-- A probe counts as answered exactly when an acknowledgement carrying the probe's own sequence number arrives (on
whatever path) before the probe's deadline. -/
theorem C19_answered_iff (c : Cfg) (score : Nat) (evs : List Ev) :
    answered c score evs = true ↔ ∃ e ∈ evs, e.kind = .ack ∧ e.mine = true ∧ e.t < deadline c score :=
  any_ack_iff ..

/-- Acks and nacks for other sequence numbers, and anything arriving at or after the deadline, have no effect on the
outcome. -/
theorem C19_foreign_noop (c : Cfg) (score : Nat) (evs : List Ev) (x : Ev) (exp : Nat) (tcp : Bool)
    (h : x.mine = false ∨ deadline c score ≤ x.t) :
    probeOutcome c score (x :: evs) exp tcp = probeOutcome c score evs exp tcp := by
  have hx : ∀ k, (x.kind == k && x.mine && decide (x.t < deadline c score)) = false := by
    intro k
    rcases h with h | h
    · simp [h]
    · simp [Nat.not_lt.mpr h]
  have ha : answered c score (x :: evs) = answered c score evs := by simp [answered, hx]
  have hc : nackCount c score (x :: evs) = nackCount c score evs := by simp [nackCount, hx]
  unfold probeOutcome
  rw [ha, hc]

/-- the two ways a probe ends: contact (own ack in time, or the TCP fallback), no suspicion and the score falls;
or no contact, a suspicion, and the score rises by the missed nacks (by one if none was expected) -/
theorem probeOutcome_cases (c : Cfg) (score : Nat) (evs : List Ev) (exp : Nat) (tcp : Bool) :
    ((answered c score evs = true ∨ tcp = true) ∧ probeOutcome c score evs exp tcp = (false, -1)) ∨
    (answered c score evs = false ∧ tcp = false ∧ (probeOutcome c score evs exp tcp).1 = true ∧
      0 ≤ (probeOutcome c score evs exp tcp).2 ∧ (probeOutcome c score evs exp tcp).2 ≤ max 1 exp) := by
  unfold probeOutcome
  cases answered c score evs
  · cases tcp
    · refine .inr ⟨rfl, rfl, rfl, ?_⟩
      simp only [Bool.false_eq_true, if_false]
      split
      · split <;> omega
      · omega
    · exact .inl ⟨.inr rfl, rfl⟩
  · exact .inl ⟨.inl rfl, rfl⟩

/-- an answered probe never leads to a suspicion and improves the health score by one -/
theorem C19_answered_ok (c : Cfg) (score : Nat) (evs : List Ev) (exp : Nat) (tcp : Bool)
    (h : answered c score evs = true) : probeOutcome c score evs exp tcp = (false, -1) := by
  rcases probeOutcome_cases c score evs exp tcp with ⟨_, e⟩ | ⟨h', _⟩
  · exact e
  · rw [h] at h'; cases h'

/-- an unanswered probe (no ack on any path, TCP fallback included) is a suspicion, and the
score delta is non-negative: missed nacks, or one when no nack-capable relay was asked -/
theorem C19_unanswered_suspects (c : Cfg) (score : Nat) (evs : List Ev) (exp : Nat)
    (h : answered c score evs = false) :
    (probeOutcome c score evs exp false).1 = true ∧ 0 ≤ (probeOutcome c score evs exp false).2 ∧
    (probeOutcome c score evs exp false).2 ≤ max 1 exp := by
  rcases probeOutcome_cases c score evs exp false with ⟨h' | h', _⟩ | ⟨_, _, r⟩
  · rw [h] at h'; cases h'
  · cases h'
  · exact r

/-- The score falls only on an answered probe, the send of the ping included: whatever happens to the
direct ping (sent, refused locally, refused by the remote side), a negative awareness delta means
that the ping did leave and that an acknowledgement with the probe's own sequence number arrived
before the deadline or the TCP fallback made contact. -/
theorem C19_score_falls_only_on_answer (sent : Sent) (c : Cfg) (score : Nat) (evs : List Ev) (exp : Nat) (tcp : Bool)
    (h : (probeWithSend sent c score evs exp tcp).2 < 0) :
    sent = .ok ∧ (answered c score evs = true ∨ tcp = true) := by
  rcases probeOutcome_cases c score evs exp tcp with ⟨ok, e⟩ | ⟨_, _, e, pos, _⟩
  · cases sent
    · exact ⟨rfl, ok⟩
    · simp [probeWithSend, e] at h
    · simp [probeWithSend] at h
  · cases sent <;> simp only [probeWithSend, e, if_true] at h <;> omega

/-- Regenerated from the source: `nextSeqNo` and `nextIncarnation` are one atomic read-modify-write whose
result is returned, so two concurrent probes are not registered under the same number (the model's pending
table is keyed by it). -/
theorem C19_seqno_single_atomic_step :
    Gen.counterBodies = [("Memberlist.nextIncarnation", ["return m.incarnation.Add(1)"]),
      ("Memberlist.nextSeqNo", ["return atomic.AddUint32(&m.sequenceNum, 1)"])] := rfl

/-- Regenerated from the source: answering a number consumes its record in the same critical section. The handler for
an acknowledgement looks the record up and deletes it before it releases the table's lock, so a duplicate or late
acknowledgement for the same number finds nothing - whatever the first one's handler is doing; a nack only looks the
record up. -/
theorem C19_ack_lookup_and_discard_atomic :
    Gen.criticalSections =
      [("Memberlist.invokeAckHandler", ["ah, ok := m.ackHandlers[ack.SeqNo]", "delete(m.ackHandlers, ack.SeqNo)"]),
       ("Memberlist.invokeNackHandler", ["ah, ok := m.ackHandlers[nack.SeqNo]"])] := rfl

/-- `Ping` counts only its own acknowledgement: foreign acknowledgements, late ones, and the expiry of the
pending record (which happens first when the probe interval is below the probe timeout) never make a
`Ping` succeed. -/
theorem C19_ping_answered_iff (interval timeout : Nat) (evs : List Ev) :
    pingAnswered interval timeout evs = true ↔
      ∃ e ∈ evs, e.kind = .ack ∧ e.mine = true ∧ e.t < interval ∧ e.t < timeout :=
  (any_ack_iff ..).trans (by simp only [Nat.lt_min])

/-- a direct ping refused with a local error ends the probe at once: no suspicion, no change of the score -/
theorem C19_local_send_error_is_inert (c : Cfg) (score : Nat) (evs : List Ev) (exp : Nat) (tcp : Bool) :
    probeWithSend .localError c score evs exp tcp = (false, 0) := rfl

example : (probeWithSend .remoteError { probeInterval := 1000, probeTimeout := 500, awarenessMax := 8, indirectChecks := 0 } 2 [] 0 false) = (true, 1) := by
  decide

/-- the score after a delta, without the case split: clamp from above, then from below -/
theorem applyDelta_eq (max score : Nat) (delta : Int) :
    applyDelta max score delta = (min ((score : Int) + delta) ((max : Int) - 1)).toNat := by
  unfold applyDelta
  simp only
  split
  next h => exact (Int.toNat_eq_zero.mpr (Int.le_trans (Int.min_le_left ..) (Int.le_of_lt h))).symm
  next h =>
    split
    next h2 => rw [Int.min_eq_right (Int.le_of_lt h2)]
    next h2 => rw [Int.min_eq_left (Int.not_lt.mp h2)]

/-- The health score always stays within [0, max-1]. -/
theorem C19_score_range (max score : Nat) (delta : Int) (hm : 1 ≤ max) :
    applyDelta max score delta ≤ max - 1 := by
  rw [applyDelta_eq]; omega

/-- A score within [0, max-1] rises only on a positive delta (failed probe with missed nacks or no nack-capable relay,
refutation) and falls only on a negative one (successful probe). -/
theorem C19_score_causes (max score : Nat) (delta : Int) (h : score ≤ max - 1) :
    (score < applyDelta max score delta → 0 < delta) ∧ (applyDelta max score delta < score → delta < 0) := by
  rw [applyDelta_eq]; omega

/-- every sequence of deltas keeps the score in range -/
theorem C19_score_range_run (max : Nat) (hm : 1 ≤ max) (deltas : List Int) (score : Nat) (h : score ≤ max - 1) :
    deltas.foldl (applyDelta max) score ≤ max - 1 :=
  List.foldlRecOn (motive := (· ≤ max - 1)) deltas _ h fun s _ d _ => C19_score_range max s d hm

/-- A relay forwards exactly one ack if the target answered its fresh ping within the probe timeout, and otherwise
sends exactly one nack iff one was requested; never both, never more than one. -/
theorem C19_relay_one_nack_iff (pt : Nat) (nack : Bool) (ackAt : Option Nat) :
    let r := relayOutcome pt nack ackAt
    r.1 + r.2 ≤ 1 ∧
    (r.1 = 1 ↔ ∃ t, ackAt = some t ∧ t < pt) ∧
    (r.2 = 1 ↔ nack = true ∧ ¬ ∃ t, ackAt = some t ∧ t < pt) := by
  cases ackAt with
  | none => cases nack <;> simp [relayOutcome]
  | some t =>
    by_cases h : t < pt <;> cases nack <;> simp [relayOutcome, h]

/-- non-vacuity: a duplicated foreign ack, a late own ack and one own nack: suspected, delta 2 of 3 -/
example :
    probeOutcome { probeInterval := 1000, probeTimeout := 500, awarenessMax := 8, indirectChecks := 3 } 0
      [⟨100, .ack, false⟩, ⟨100, .ack, false⟩, ⟨1200, .ack, true⟩, ⟨700, .nack, true⟩] 3 false = (true, 2) := by decide

end Swim.Acks
