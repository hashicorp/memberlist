import Swim.Props.ClusterG
import Swim.Props.C05
/-!
# C05 at cluster level: no accusation can stick against a running member
Logic part of "false accusations are all refuted; none sticks", for every history of the cluster model
(histories of fewer than 2^32 steps: no incarnation counter wraps): every accusation
anybody holds is bounded by the accused member's own incarnation (`C02_cluster_bounded`), the accused refutes it when it
hears of it (`C02_cluster_defends`), and the refutation - or any newer alive claim of the member - clears the accusation
wherever it is delivered (`C05_cluster_override`). Whether and when those deliveries happen depends on random target
selection and timing; that part is observed by the simulator.
-/
namespace Swim.Cluster
open Swim.Merge

theorem override_of_known {w : World} {k : Nat} (hinv : GInv w k) {y : Node} (hy : y ∈ w.nodes) {r : Rec}
    (hr : r ∈ y.recs) (hne : r.name ≠ y.cfg.self) {a : AliveMsg} (hk : KnownAt w a.node a.inc a.addr a.port)
    (hnode : a.node = r.name) (hnewer : r.inc < a.inc) (env : Env) (hv : vsnBad a.vsn = false)
    (hdel : (y.cfg.hasAliveDelegate && (a.vsn.length < 6 || !env.delegateOk)) = false) :
    (∃ r', lookup (aliveNode y a false false env).1.recs r.name = some r' ∧ r'.st = .alive ∧ r'.inc = a.inc) ∧
    (aliveNode y a false false env).1.timers = delTimer y.timers r.name := by
  -- both addresses are the subject's own
  obtain ⟨X, hX, hn, me, hme, _, a1, p1⟩ := (hinv.recG hy hr hne).2.1
  obtain ⟨_, a2, p2⟩ := knownAt_self hinv hX hme (hnode.trans hn.symm) hk
  have hl : lookup y.recs a.node = some r := by rw [hnode]; exact lookup_of_mem (hinv.uniq hy) hr
  have := C05_accusation_overridden y a false false env r (by rw [hnode]; exact hne) hl hv hdel
    ⟨by rw [← a1, ← a2], by rw [← p1, ← p2]⟩ hnewer
  rwa [hnode] at this

/-- In every reachable cluster state: a node `y` that holds a record of another member `x` (an accusation, say) and is
handed any alive claim about `x` in flight with a newer incarnation - `x`'s refutation, a later update, a re-gossip of
either - holds `x` alive at that incarnation and drops the suspicion timer, provided `y`'s filters let the claim through
(sane versions, alive delegate not vetoing). That the claim carries the address `y` has on record is an invariant. -/
theorem C05_cluster_override (w0 : World) (ops : List COp) (hfresh : Fresh w0) (hlen : ops.length < u32)
    (y : Node) (hy : y ∈ (w0.run ops).nodes) (r : Rec) (hr : r ∈ y.recs) (hne : r.name ≠ y.cfg.self)
    (a : AliveMsg) (ha : Msg.alive a ∈ (w0.run ops).pool) (hnode : a.node = r.name) (hnewer : r.inc < a.inc)
    (env : Env) (hv : vsnBad a.vsn = false)
    (hdel : (y.cfg.hasAliveDelegate && (a.vsn.length < 6 || !env.delegateOk)) = false) :
    (∃ r', lookup (receive (.alive a) env y).1.recs r.name = some r' ∧ r'.st = .alive ∧ r'.inc = a.inc) ∧
    (receive (.alive a) env y).1.timers = delTimer y.timers r.name := by
  have h := ginv_reachable ops hfresh hlen
  exact override_of_known h hy hr hne (h.2.2 _ ha).2 hnode hnewer env hv hdel

/-- the same when the newer alive claim arrives as an entry of a state list (push/pull) instead of a gossip message -/
theorem C05_cluster_state_override (w0 : World) (ops : List COp) (hfresh : Fresh w0) (hlen : ops.length < u32)
    (y : Node) (hy : y ∈ (w0.run ops).nodes) (r : Rec) (hr : r ∈ y.recs) (hne : r.name ≠ y.cfg.self)
    (s : PushState) (hs : Msg.state s ∈ (w0.run ops).pool) (hst : s.st = .alive) (hnode : s.name = r.name)
    (hnewer : r.inc < s.inc) (env : Env) (hv : vsnBad s.vsn = false)
    (hdel : (y.cfg.hasAliveDelegate && (s.vsn.length < 6 || !env.delegateOk)) = false) :
    (∃ r', lookup (receive (.state s) env y).1.recs r.name = some r' ∧ r'.st = .alive ∧ r'.inc = s.inc) ∧
    (receive (.state s) env y).1.timers = delTimer y.timers r.name := by
  have h := ginv_reachable ops hfresh hlen
  rw [receive_state_alive s env hst]
  exact override_of_known (a := aliveOfState s) h hy hr hne ((h.2.2 _ hs).2.1 hst).2 hnode hnewer env hv hdel

end Swim.Cluster
